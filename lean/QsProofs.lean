import QsProofs.Inst
import QsProofs.Lemmas.Position
import QsProofs.Props.C03
import QsProofs.Lemmas.Holdings
import QsProofs.Lemmas.HoldingsBroker
import QsProofs.Props.C02
import QsProofs.Lemmas.Orders
import QsProofs.Lemmas.OrdersFees
import QsProofs.Lemmas.OrdersExample
import QsProofs.Props.C04
import QsProofs.Props.C05
import QsProofs.Lemmas.Sizer
import QsProofs.Props.C10
import QsProofs.Props.C11
import QsProofs.Lemmas.Pcm
import QsProofs.Props.C09
import QsProofs.Props.C19
import QsProofs.Lemmas.Market
import QsProofs.Props.C06
import QsProofs.Lemmas.Broker
import QsProofs.Lemmas.BrokerObs
import QsProofs.Lemmas.BrokerSim
import QsProofs.Props.C01
import QsProofs.Props.C15
import QsProofs.Lemmas.Calendar
import QsProofs.Props.C12
import QsProofs.Props.C13
import QsProofs.Lemmas.Signals
import QsProofs.Lemmas.Stats
import QsProofs.Props.C16
import QsProofs.Props.C17
import QsProofs.Lemmas.Determinism
import QsProofs.Props.C18
import QsProofs.Lemmas.Session
import QsProofs.Props.C14
import QsProofs.Props.C07
import QsProofs.Lemmas.RefinementHold
import QsProofs.Lemmas.RefinementBroker
import QsProofs.Lemmas.RefinementSession
import QsProofs.Props.C08
import QsProofs.Lemmas.SessionLifts
import QsProofs.Props.C16Session
import QsProofs.Props.C19Session
import QsProofs.Props.C09Session
import QsProofs.Props.C08Converse
import QsProofs.Props.C13Corollaries
import QsProofs.RatInst
