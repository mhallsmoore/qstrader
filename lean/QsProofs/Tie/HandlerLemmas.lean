import QsProofs.Lemmas.BrokerBasic

/-!
# Names the printed proof of `tie_Handler_transactPosition` cites

`harness/translate.py` prints that proof (`Tie/HandlerGen.lean`) with these names: instances, at the transaction's own
key, of lookup equations of `Lemmas/PositionsBasic.lean`, and two `Position` lemmas under the name the proof uses.
-/

namespace Qs.Tie

section
variable {α : Type} [Add α] [Sub α] [Mul α] [Div α] [Neg α] [NumOps α]

theorem find_set (ps : Qs.Positions α) (p q : Qs.Position α) (a : String) (h : Qs.Positions.find? ps a = some p) (hq : q.asset = a) :
    Qs.Positions.find? (Qs.Positions.set ps q) a = some q := by
  rw [Positions.find?_set, if_pos hq.symm, h]; rfl

theorem find_erase (ps : Qs.Positions α) (a : String) : Qs.Positions.find? (Qs.Positions.erase ps a) a = none := by
  rw [Positions.find?_erase, if_pos rfl]

theorem find_append_new (ps : Qs.Positions α) (q : Qs.Position α) (a : String) (h : Qs.Positions.find? ps a = none) (hq : q.asset = a) :
    Qs.Positions.find? (ps ++ [q]) a = some q := by
  rw [Positions.find?_snoc, h, if_pos hq]; rfl

theorem find_asset (ps : Qs.Positions α) (p : Qs.Position α) (a : String) (h : Qs.Positions.find? ps a = some p) : p.asset = a :=
  (Positions.find?_some h).2

theorem openFrom_asset (t : Qs.Txn α) : (Qs.Position.openFrom t).asset = t.asset := Position.openFrom_asset t

theorem transact_asset (p : Qs.Position α) (t : Qs.Txn α) : (Qs.Position.transact p t).1.asset = p.asset :=
  Position.transact_asset p t

end
end Qs.Tie
