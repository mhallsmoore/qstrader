import QsProofs.Tie.PositionGen
import QsProofs.Tie.KernelsGen
import QsProofs.Lemmas.Position
import QsProofs.Lemmas.Sizer
import QsProofs.Props.C03
import QsProofs.Props.C05

/-!
# Property statements about the *translated source*

`Qs.Gen.*` is what `harness/translate.py` reads off the Python source (`QsGen/*.lean`, generated); the tie theorems
of `Tie/*Gen.lean` prove it equal to the model.  Here kernel-level clauses of C02, C03, C05, C10 and C11 are restated for
`Qs.Gen.*`: a property theorem about the model is *lifted* to the code as it is written now by rewriting with the tie
(`C02_src_transact` walks the model's flat form instead).
`LiftedBroker.lean` does the same for the broker's requests; `Source/C01.lean` proves its clauses without the model.
Every other theorem about a tied model function transfers the same way.
-/

open NumOps Num

namespace Qs.Tie

variable {α : Type} [Field α] [LinearOrder α] [IsStrictOrderedRing α] [FloorRing α] [NumOps α] [LawfulNumOps α]

/-- The `Transaction` that `SimulatedBroker._execute_order` builds from a quote `(bid, ask)`:
stamped with the broker's clock, priced at the ask for a buy and the bid for a sell, for the order's full quantity, and
carrying the fee model's total cost on the consideration rounded half-to-even — whatever the portfolio's cash. -/
theorem C05_src_fill (clock : Int) (fee : Qs.FeeModel α) (cash bid ask : α) (o : Qs.Order) :
    let tx := Qs.Gen.Broker.makeTxn clock fee cash bid ask o
    tx.time = clock ∧ tx.price = (if o.qty < 0 then bid else ask) ∧ tx.qty = o.qty ∧ tx.asset = o.asset ∧
      tx.orderId = o.id ∧
      tx.commission = fee.totalCost ((roundHalfEvenI (tx.price * (o.qty : α)) : Int) : α) := by
  intro tx
  let b : Qs.Broker α := { clock := clock, master := 0, fee := fee }
  let q : Qs.Quotes α := fun _ => some (bid, ask)
  have h := tie_Broker_makeTxn b q o cash bid ask rfl
  obtain ⟨bid', ask', hq, h2, h3, h4, h5, h6, h7⟩ := Qs.C05_fill_general b q o _ h
  have : (bid', ask') = (bid, ask) := by
    have : some (bid, ask) = some (bid', ask') := hq
    exact (Option.some.inj this).symm
  obtain ⟨rfl, rfl⟩ := Prod.mk.inj this
  exact ⟨h2, h3, h4, h5, h6, h7⟩

/-- The percentage fee model's `calc_total_cost` is `(c + τ)·|x|`, non-negative for
non-negative rates and the same for a buy and a sell of the same consideration. -/
theorem C05_src_percent (c τ x : α) (asset : String) (q : Int) (hc : 0 ≤ c) (hτ : 0 ≤ τ) :
    Qs.Gen.PercentFee.totalCost c τ asset q x = (c + τ) * |x| ∧ 0 ≤ Qs.Gen.PercentFee.totalCost c τ asset q x ∧
    Qs.Gen.PercentFee.totalCost c τ asset q (-x) = Qs.Gen.PercentFee.totalCost c τ asset q x := by
  rw [tie_PercentFee_totalCost, tie_PercentFee_totalCost]
  exact Qs.C05_percent c τ x hc hτ

theorem C05_src_zero (asset : String) (q : Int) (x : α) : Qs.Gen.ZeroFee.totalCost (α := α) asset q x = 0 := by
  rw [tie_ZeroFee_totalCost]; exact Qs.C05_zero x

/-- `total_pnl = realised_pnl + unrealised_pnl` and
`unrealised_pnl = (current_price − avg_price) × net_quantity`, for every `Position` object. -/
theorem C03_src_total (p : Qs.Position α) :
    Qs.Gen.Position.totalPnl p = Qs.Gen.Position.realised p + Qs.Gen.Position.unrealised p ∧
    Qs.Gen.Position.unrealised p = (p.price - Qs.Gen.Position.avgPrice p) * Qs.Gen.Position.net p := by
  simp only [tie_Position_totalPnl, tie_Position_realised, tie_Position_unrealised, tie_Position_avgPrice, tie_Position_net]
  exact ⟨Qs.C03_total p, Qs.C03_unrealised p⟩

/-- Average cost on the side held — `(avg_bought·buy_quantity + buy_commission)/buy_quantity` when long,
`(avg_sold·sell_quantity − sell_commission)/sell_quantity` when short, `0` when flat. -/
theorem C03_src_avgPrice (p : Qs.Position α) :
    (0 < Qs.Gen.Position.net p → Qs.Gen.Position.avgPrice p = (p.avgB * p.buyQ + p.comB) / p.buyQ) ∧
    (Qs.Gen.Position.net p < 0 → Qs.Gen.Position.avgPrice p = (p.avgS * p.sellQ - p.comS) / p.sellQ) ∧
    (Qs.Gen.Position.net p = 0 → Qs.Gen.Position.avgPrice p = 0) := by
  simp only [tie_Position_avgPrice, tie_Position_net]
  exact ⟨Qs.avgPrice_long p, Qs.avgPrice_short p, Qs.avgPrice_flat p⟩

/-- An accepted fill (matching asset) moves the net quantity by exactly its signed quantity and leaves
the position marked at the fill price; a refused one leaves every quantity and the price as they were. -/
theorem C02_src_transact (p : Qs.Position α) (t : Qs.Txn α) (ha : p.asset = t.asset) (hq : t.qty ≠ 0) :
    ((Qs.Gen.Position.transact p t).2 = none →
      Qs.Gen.Position.net (Qs.Gen.Position.transact p t).1 = Qs.Gen.Position.net p + (t.qty : α) ∧
      (Qs.Gen.Position.transact p t).1.price = t.price) ∧
    (∀ e, (Qs.Gen.Position.transact p t).2 = some e →
      (Qs.Gen.Position.transact p t).1.buyQ = p.buyQ ∧ (Qs.Gen.Position.transact p t).1.sellQ = p.sellQ ∧
      (Qs.Gen.Position.transact p t).1.price = p.price) := by
  rw [tie_Position_transact p t ha, Position.transact_flat, if_neg hq]
  simp only [tie_Position_net]
  by_cases h1 : t.time < p.clock
  · rw [if_pos h1]; exact ⟨fun h => (nomatch h), fun e _ => ⟨rfl, rfl, rfl⟩⟩
  rw [if_neg h1]
  by_cases h2 : le t.price zero = true
  · rw [if_pos h2]; exact ⟨fun h => (nomatch h), fun e _ => ⟨rfl, rfl, rfl⟩⟩
  rw [if_neg h2]
  by_cases h3 : 0 < t.qty
  · rw [if_pos h3]
    refine ⟨fun _ => ⟨?_, rfl⟩, fun e h => (nomatch h)⟩
    simp only [Position.net, ofInt_eq]; ring
  · rw [if_neg h3]
    refine ⟨fun _ => ⟨?_, rfl⟩, fun e h => (nomatch h)⟩
    simp only [Position.net, ofInt_eq, Int.cast_neg]; ring

/-- Per asset: the quantity the long-only sizer's loop body computes from the allocation
`A = equity·(1 − buffer)·weight ≥ 0` and a positive price is non-negative, affordable after the fee estimate, and maximal. -/
theorem C10_src_quantity (fee : Qs.FeeModel α) (equity buffer weight price : α)
    (hA : 0 ≤ equity * (1 - buffer) * weight) (hp : 0 < price) (hf1 : Qs.feeRate fee ≤ 1) :
    let A := equity * (1 - buffer) * weight
    let q := Qs.Gen.DW.quantity fee equity buffer weight price
    0 ≤ q ∧ (q : α) * price + Qs.feeRate fee * A ≤ A ∧ A < ((q : α) + 1) * price + Qs.feeRate fee * A := by
  intro A q
  have h := Qs.dwQuantity_spec fee (equity * (1 - buffer)) weight price hA hp hf1
  have e : q = Qs.dwQuantity fee (equity * (1 - buffer)) weight price := by
    show Qs.Gen.DW.quantity fee equity buffer weight price = _
    rw [tie_DW_quantity]; simp
  rw [e]; exact h

/-- Per asset: the quantity the long/short sizer's loop body computes carries the sign of its
allocation (or is zero) and is affordable against the after-cost dollars, to within one unit of currency and one share. -/
theorem C11_src_quantity (fee : Qs.FeeModel α) (equity weight price : α) (hp : 0 < price)
    (hf0 : 0 ≤ Qs.feeRate fee) (hf1 : Qs.feeRate fee ≤ 1) :
    let q := Qs.Gen.LS.quantity fee equity weight price
    (0 ≤ equity * weight → 0 ≤ q) ∧ (equity * weight ≤ 0 → q ≤ 0) ∧
    |(q : α)| * price ≤ |equity * weight - Qs.feeRate fee * _root_.abs (equity * weight)| := by
  intro q
  have e : q = Qs.lsQuantity fee equity weight price := tie_LS_quantity fee equity weight price
  rw [e]
  obtain ⟨h1, h2⟩ := Qs.lsQuantity_sign fee equity weight price hp hf0 hf1
  exact ⟨h1, h2, (Qs.lsQuantity_afford fee equity weight price hp).1⟩

/-- The cash buffer is accepted, unchanged, exactly when it lies in `[0, 1]`;
any other value is refused with `ValueError`. -/
theorem C10_src_buffer (b : α) :
    (0 ≤ b ∧ b ≤ 1 → Qs.Gen.DW.checkBuffer b = .ok b) ∧
    (b < 0 ∨ 1 < b → Qs.Gen.DW.checkBuffer b = .error .value) := by
  rw [tie_DW_checkBuffer, Qs.dwCheckBuffer_eq]
  exact ⟨fun ⟨h0, h1⟩ => if_neg (not_or.mpr ⟨not_lt.mpr h0, not_lt.mpr h1⟩), fun h => if_pos h⟩

/-- The gross leverage is accepted, unchanged, exactly when it is positive. -/
theorem C11_src_leverage (l : α) :
    (0 < l → Qs.Gen.LS.checkLeverage l = .ok l) ∧ (l ≤ 0 → Qs.Gen.LS.checkLeverage l = .error .value) := by
  rw [tie_LS_checkLeverage, Qs.lsCheckLeverage_eq]
  exact ⟨fun h => if_neg (not_le.mpr h), fun h => if_pos h⟩

end Qs.Tie
