import QsProofs.Inst
import QsProofs.Lemmas.BrokerBasic
import Mathlib.Tactic.Ring
import Mathlib.Tactic.FieldSimp
import Mathlib.Tactic.Linarith
import Mathlib.Tactic.SplitIfs
import Mathlib.Tactic.Order
import QsGen.Views

/-!
# The fixed tactic for the translator's tie obligations `Gen.f = Qs.f`

`Gen.f` is what `harness/translate.py` read off the Python source, `Qs.f` the hand-written model; both are decision
trees over tests on the carrier.  The tactic unfolds both, writes every test as a proposition about the ordered field
(the laws of `QsProofs/Inst.lean`) so that the trees branch on the same atoms, and leaves their comparison, up to ring
identities in the leaves, to `grind`.  Model functions written with nested `match`es are first replaced by flat forms:
`Position.transact_flat` and, below, the three `Portfolio` methods seen through `pfView`.  Failing that, a slower
search (`simp`, a split on every `if`, `ring`/`field_simp`/`linarith`/`order` on the leaves), deliberately stronger
than the current source needs, so that algebraically equivalent rewrites of the Python formulas still check.
-/

open NumOps Num

section
variable {α : Type} [Add α] [Sub α] [Mul α] [Div α] [Neg α] [NumOps α]

-- `simp` lemmas: the slower search of `qs_tie_view` unfolds the model method and calls `simp_all` on the states

@[simp] theorem Qs.Tie.view_same (p : Qs.Portfolio α) (e : Option Qs.Err) :
    Qs.Gen.pfView p (p, e) = Qs.Gen.PfView.mk e p.clock p.cash false 0 "" (ofInt 0) (ofInt 0) (ofInt 0) := by
  simp [Qs.Gen.pfView]

@[simp] theorem Qs.Tie.view_upd (p : Qs.Portfolio α) (e : Option Qs.Err) (i : String) (c : Int) (m : α) (ps : Qs.Positions α) :
    Qs.Gen.pfView p ({ id := i, clock := c, cash := m, positions := ps, history := p.history }, e)
      = Qs.Gen.PfView.mk e c m false 0 "" (ofInt 0) (ofInt 0) (ofInt 0) := by
  simp [Qs.Gen.pfView]

@[simp] theorem Qs.Tie.view_grow (p : Qs.Portfolio α) (e : Option Qs.Err) (i : String) (c : Int) (m : α) (ps : Qs.Positions α)
    (ev : Qs.Event α) :
    Qs.Gen.pfView p ({ id := i, clock := c, cash := m, positions := ps, history := p.history ++ [ev] }, e)
      = Qs.Gen.PfView.mk e c m true ev.time ev.kind.name ev.debit ev.credit ev.balance := by
  simp [Qs.Gen.pfView]

namespace Qs.Tie
open Qs.Gen

theorem pfView_subscribe (p : Portfolio α) (t : Int) (a : α) :
    pfView p (p.subscribe t a) =
      if t < p.clock then ⟨some .value, p.clock, p.cash, false, 0, "", ofInt 0, ofInt 0, ofInt 0⟩
      else if lt a zero then ⟨some .value, t, p.cash, false, 0, "", ofInt 0, ofInt 0, ofInt 0⟩
      else ⟨none, t, p.cash + a, true, t, "subscription", zero, round2 a, round2 (p.cash + a)⟩ := by
  rw [Qs.subscribe_flat]
  by_cases h1 : t < p.clock
  · rw [if_pos h1, if_pos h1]; exact view_same p _
  rw [if_neg h1, if_neg h1]
  by_cases h2 : lt a zero = true
  · rw [if_pos h2, if_pos h2]; exact view_upd p _ _ _ _ _
  rw [if_neg h2, if_neg h2]; exact view_grow p _ _ _ _ _ _

theorem pfView_withdraw (p : Portfolio α) (t : Int) (a : α) :
    pfView p (p.withdraw t a) =
      if t < p.clock then ⟨some .value, p.clock, p.cash, false, 0, "", ofInt 0, ofInt 0, ofInt 0⟩
      else if lt a zero then ⟨some .value, t, p.cash, false, 0, "", ofInt 0, ofInt 0, ofInt 0⟩
      else if lt p.cash a then ⟨some .value, t, p.cash, false, 0, "", ofInt 0, ofInt 0, ofInt 0⟩
      else ⟨none, t, p.cash - a, true, t, "withdrawal", round2 a, zero, round2 (p.cash - a)⟩ := by
  rw [Qs.withdraw_flat]
  by_cases h1 : t < p.clock
  · rw [if_pos h1, if_pos h1]; exact view_same p _
  rw [if_neg h1, if_neg h1]
  by_cases h2 : lt a zero = true
  · rw [if_pos h2, if_pos h2]; exact view_upd p _ _ _ _ _
  rw [if_neg h2, if_neg h2]
  by_cases h3 : lt p.cash a = true
  · rw [if_pos h3, if_pos h3]; exact view_upd p _ _ _ _ _
  rw [if_neg h3, if_neg h3]; exact view_grow p _ _ _ _ _ _

theorem pfView_transactAsset (p : Portfolio α) (t : Txn α) :
    pfView p (p.transactAsset t) =
      if t.time < p.clock then ⟨some .value, p.clock, p.cash, false, 0, "", ofInt 0, ofInt 0, ofInt 0⟩
      else if (p.positions.transactPosition t).2.isNone then
        let cost := t.price * ofInt t.qty + t.commission
        if t.qty < 0 then
          ⟨none, t.time, p.cash - cost, true, t.time, "asset_transaction", zero, ofInt (-1) * round2 cost,
            round2 (p.cash - cost)⟩
        else
          ⟨none, t.time, p.cash - cost, true, t.time, "asset_transaction", round2 cost, zero, round2 (p.cash - cost)⟩
      else ⟨(p.positions.transactPosition t).2, t.time, p.cash, false, 0, "", ofInt 0, ofInt 0, ofInt 0⟩ := by
  rw [Qs.transactAsset_flat]
  by_cases h1 : t.time < p.clock
  · rw [if_pos h1, if_pos h1]; exact view_same p _
  rw [if_neg h1, if_neg h1]
  rcases p.positions.transactPosition t with ⟨ps, _ | e⟩
  · refine (view_grow p _ _ _ _ _ _).trans ?_
    unfold Qs.fillEvent
    by_cases h2 : t.qty < 0
    · simp only [Option.isNone_none, if_true, if_pos h2]; rfl
    · simp only [Option.isNone_none, if_true, if_neg h2]; rfl
  · exact view_upd p _ _ _ _ _

/-- the side test as the translator prints it for `transact_asset`.  With this and `ite_not` the source's tree and
`pfView_transactAsset` are the same term, and `grind` is not called. -/
theorem side_long_iff (q : Int) :
    ((if 0 < (if q < 0 then (-1 : Int) else 1) then "LONG" else "SHORT") == "LONG") = true ↔ ¬ q < 0 := by
  by_cases h : q < 0
  · rw [if_pos h, if_neg (by decide)]; exact iff_of_false (by decide) (not_not.mpr h)
  · rw [if_neg h, if_pos (by decide)]; exact iff_of_true (by decide) h

end Qs.Tie
end

/-- one leaf of the slower search; every alternative closes the goal or fails -/
macro "qs_tie_leaf" : tactic => `(tactic| first
  | with_reducible rfl
  | (exfalso; linarith)
  | (exfalso; omega)
  | ring1
  | (simp_all <;> done)
  | (simp_all <;> ring1)
  | (simp_all <;> ring_nf <;> done)
  | (field_simp <;> ring1)
  | (simp_all <;> field_simp <;> ring1)
  | (simp_all <;> first | linarith | order)
  | (exfalso; simp_all <;> first | linarith | omega | order)
  | (exfalso; simp_all [sub_eq_zero] <;> first | linarith | omega | order | grind)
  | (simp_all [sub_eq_zero] <;> first | ring1 | linarith | order | (field_simp <;> ring1) | grind)
  | grind)

/-- `defs`: what to unfold on both sides.  After `rfl` comes the comparison of trees (hypotheses such as
`p.asset = t.asset` serve as rewrite rules), then the slower search. -/
syntax "qs_tie" "[" Lean.Parser.Tactic.simpLemma,* "]" : tactic
macro_rules
  | `(tactic| qs_tie [$ds,*]) => `(tactic| first
      | with_reducible rfl
      | (simp only [↓Qs.Position.transact_flat, $ds,*, ofInt_eq, lt_eq, le_eq, beq_eq, abs_eq', floorI_eq, ceilI_eq, zero_eq,
            one_eq, decide_eq_true_eq, gt_iff_lt, ge_iff_le, Int.cast_ite, *] <;> grind)
      | (simp only [$ds,*] <;> done)
      | (simp [$ds,*] <;> done)
      | (simp [$ds,*] <;> ring_nf <;> done)
      | (simp only [$ds,*] <;> split_ifs <;> qs_tie_leaf)
      | (simp [$ds,*] <;> split_ifs <;> qs_tie_leaf)
      | (simp only [$ds,*] <;> grind))

/-- the same with the hypothesis `h` rewritten in first.  The translator also prints this call, as a second alternative,
under statements that have no `h`: there it does not elaborate and is never reached. -/
syntax "qs_tie_h" ident "[" Lean.Parser.Tactic.simpLemma,* "]" : tactic
macro_rules
  | `(tactic| qs_tie_h $h:ident [$ds,*]) => `(tactic| first
      | (simp only [$ds,*, ofInt_eq, lt_eq, le_eq, beq_eq, abs_eq', floorI_eq, ceilI_eq, zero_eq, one_eq,
            decide_eq_true_eq, gt_iff_lt, ge_iff_le, Int.cast_ite, $h:ident] <;> grind)
      | (simp only [$ds,*, $h:ident] <;> done)
      | (simp [$ds,*, $h:ident] <;> done)
      | (simp only [$ds,*, $h:ident] <;> split_ifs <;> qs_tie_leaf)
      | (simp [$ds,*, $h:ident] <;> split_ifs <;> qs_tie_leaf)
      | (simp only [$ds,*, $h:ident] <;> grind))

/-- for `pfView p (model step) = Gen step …` or one field of it: the model side is rewritten by the `pfView_*` flat forms
before anything is unfolded; the slower search unfolds `pfView` and splits instead. -/
syntax "qs_tie_view" "[" Lean.Parser.Tactic.simpLemma,* "]" : tactic
macro_rules
  | `(tactic| qs_tie_view [$ds,*]) => `(tactic| first
      | (simp only [↓Qs.Tie.pfView_subscribe, ↓Qs.Tie.pfView_withdraw, ↓Qs.Tie.pfView_transactAsset, $ds,*, ofInt_eq,
            lt_eq, le_eq, beq_eq, zero_eq, one_eq, decide_eq_true_eq, gt_iff_lt, ge_iff_le, Qs.Tie.side_long_iff,
            ite_not] <;> grind)
      | (simp only [$ds,*] <;> split_ifs <;> (try split) <;> (try simp_all [Qs.EventKind.name, Qs.dirOf]) <;>
        (first | done | omega | (exfalso; omega) | linarith | (exfalso; linarith) | qs_tie_leaf)))
