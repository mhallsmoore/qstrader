import QsGen.Kernels
import QsProofs.Inst

/-!
# C01 clauses proved directly of the translated `Portfolio` methods (no model in between)

`Qs.Gen.Portfolio.*` are the effects of `Portfolio.subscribe_funds / withdraw_funds / transact_asset` as read off the
Python source (`QsGen/Kernels.lean`, generated).  If the source changes so that a theorem stops holding, this file stops
building and C01's check reports the obligation.  The proofs split on every test and leave the leaves to `simp_all`, so
that they survive a reordering of the source's tests; `C01_src_transact` tries a walk of the tests as they stand first.
Namespace `Qs.Src`; the source-level statements obtained through a tie are in `Qs.Tie` (names fixed by
`lean/obligations.json`).
-/

set_option linter.unusedTactic false
set_option linter.unreachableTactic false
set_option linter.unnecessarySeqFocus false

open NumOps

namespace Qs.Src

variable {α : Type} [Field α] [LinearOrder α] [IsStrictOrderedRing α] [FloorRing α] [NumOps α] [LawfulNumOps α]

/-- an accepted subscription credits exactly the amount; the event shows amount and new cash rounded to cents -/
theorem C01_src_subscribe (clock : Int) (cash : α) (t : Int) (amount : α)
    (h : (Qs.Gen.Portfolio.subscribe clock cash t amount).err = none) :
    let v := Qs.Gen.Portfolio.subscribe clock cash t amount
    v.cash = cash + amount ∧ v.appended = true ∧ v.evKind = "subscription" ∧ v.evTime = t ∧
      v.evCredit = round2 amount ∧ v.evDebit = 0 ∧ v.evBalance = round2 (cash + amount) ∧ clock ≤ t ∧ 0 ≤ amount := by
  simp only [Qs.Gen.Portfolio.subscribe] at h ⊢
  split_ifs at h ⊢ <;> simp_all

/-- an accepted withdrawal debits exactly the amount (which the cash covered) and records it on the debit side -/
theorem C01_src_withdraw (clock : Int) (cash : α) (t : Int) (amount : α)
    (h : (Qs.Gen.Portfolio.withdraw clock cash t amount).err = none) :
    let v := Qs.Gen.Portfolio.withdraw clock cash t amount
    v.cash = cash - amount ∧ v.appended = true ∧ v.evKind = "withdrawal" ∧ v.evTime = t ∧
      v.evDebit = round2 amount ∧ v.evCredit = 0 ∧ v.evBalance = round2 (cash - amount) ∧ clock ≤ t ∧ 0 ≤ amount ∧ amount ≤ cash := by
  simp only [Qs.Gen.Portfolio.withdraw] at h ⊢
  split_ifs at h ⊢ <;> simp_all

/-- an accepted fill debits exactly `price × signed quantity + commission`, once; the event shows it rounded to cents, on
the debit side for a buy and negated on the credit side for a sell -/
theorem C01_src_transact (clock : Int) (cash : α) (t : Qs.Txn α) (posErr : Option Qs.Err)
    (h : (Qs.Gen.Portfolio.transactAsset clock cash t posErr).err = none) :
    let v := Qs.Gen.Portfolio.transactAsset clock cash t posErr
    let cost := t.price * (t.qty : α) + t.commission
    v.cash = cash - cost ∧ v.appended = true ∧ v.evKind = "asset_transaction" ∧ v.evTime = t.time ∧
      v.evBalance = round2 (cash - cost) ∧
      (0 ≤ t.qty → v.evDebit = round2 cost ∧ v.evCredit = 0) ∧
      (t.qty < 0 → v.evDebit = 0 ∧ v.evCredit = -(round2 cost)) := by
  -- the tests as they stand, one by one (cheap); else the split on every test
  first
  | (
      unfold Qs.Gen.Portfolio.transactAsset at h ⊢
      by_cases h1 : t.time < clock
      · rw [if_pos (decide_eq_true h1)] at h; cases h
      rw [if_neg (by simpa using h1)] at h ⊢
      cases posErr with
      | some e => cases h
      | none =>
        -- the side ("LONG" / "SHORT") is a closed test once the sign of the quantity is known
        by_cases h2 : t.qty < 0
        · simp (decide := true) only [h2, decide_true, if_true, if_false, ofInt_eq, Int.cast_neg, Int.cast_one, neg_mul,
            one_mul, Int.cast_zero]
          exact ⟨trivial, trivial, trivial, trivial, trivial, fun hq => absurd hq (by omega), trivial⟩
        · simp (decide := true) only [h2, decide_false, if_true, if_false, ofInt_eq, Int.cast_zero, Bool.false_eq_true]
          exact ⟨trivial, trivial, trivial, trivial, trivial, fun _ => trivial, fun hq => hq.elim⟩)
  | (simp only [Qs.Gen.Portfolio.transactAsset] at h ⊢
     split_ifs at h ⊢ <;> simp_all <;> (try constructor) <;> (try intro _) <;> simp_all <;> omega)

end Qs.Src
