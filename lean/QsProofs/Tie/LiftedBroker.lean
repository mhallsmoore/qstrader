import QsProofs.Tie.KernelsGen
import QsProofs.Props.C15

/-!
# The broker's requests: statements about the *translated source*

`Qs.Gen.Broker.*` is what `harness/translate.py` read off `SimulatedBroker._set_base_currency`, `_set_initial_funds`,
`subscribe_funds_to_account`, `withdraw_funds_from_account` and the broker side of `subscribe_funds_to_portfolio` /
`withdraw_funds_from_portfolio` (`QsGen/Kernels.lean`, generated).  About that code: which requests are refused, with
which error class and in which order (C15); what an accepted transfer does to the balances (C01); and that the model's
requests, on which C01 and C15 are proved, are exactly these kernels lifted to the broker state.
-/

open NumOps Num

namespace Qs.Tie

variable {α : Type} [Field α] [LinearOrder α] [IsStrictOrderedRing α] [FloorRing α] [NumOps α] [LawfulNumOps α]

/-- The base currency is accepted exactly when the code is an element of the list of supported
currencies — equality with an element, not containment in a rendering of the list — and returned unchanged; otherwise
`ValueError`. -/
theorem C15_src_currency (supported : List String) (cur : String) :
    (cur ∈ supported → Qs.Gen.Broker.checkCurrency supported cur = .ok cur) ∧
    (cur ∉ supported → Qs.Gen.Broker.checkCurrency supported cur = .error .value) := by
  rw [tie_Broker_checkCurrency]
  unfold Qs.Broker.checkCurrency
  exact ⟨fun h => if_pos (List.contains_iff_mem.mpr h), fun h => if_neg (mt List.contains_iff_mem.mp h)⟩

/-- Negative initial funds are refused with `ValueError`, any other amount is kept as it is. -/
theorem C15_src_funds (funds : α) :
    (funds < 0 → Qs.Gen.Broker.checkFunds funds = .error .value) ∧
    (¬ funds < 0 → Qs.Gen.Broker.checkFunds funds = .ok funds) := by
  rw [tie_Broker_checkFunds]
  unfold Qs.Broker.checkFunds
  simp only [lt_eq, zero_eq, decide_eq_true_eq]
  exact ⟨fun h => if_pos h, fun h => if_neg h⟩

theorem C15_src_create (supported : List String) (cur : String) (t : Int) (funds : α) (fee : Qs.FeeModel α) :
    Qs.Broker.create supported cur t funds fee =
      (match Qs.Gen.Broker.checkCurrency supported cur with
       | .error e => .error e
       | .ok _ =>
         match Qs.Gen.Broker.checkFunds funds with
         | .error e => .error e
         | .ok f => .ok { clock := t, master := (if lt zero f then f else zero), fee := fee }) := by
  rw [tie_Broker_checkCurrency, tie_Broker_checkFunds]
  unfold Qs.Broker.create Qs.Broker.checkCurrency Qs.Broker.checkFunds Qs.Broker.new
  by_cases hc : supported.contains cur = true
  · rw [if_pos hc, if_pos hc]
    by_cases hf : lt funds zero = true
    · rw [if_pos hf, if_pos hf]
    · rw [if_neg hf, if_neg hf]
  · rw [if_neg hc, if_neg hc]

/-- Account subscription: a negative amount is refused with `ValueError`; any other amount
is added to the master balance, which is the only thing that changes. -/
theorem C01_src_subscribeAccount (master amount : α) :
    (amount < 0 → Qs.Gen.Broker.subscribeAccount master amount = .error .value) ∧
    (¬ amount < 0 → Qs.Gen.Broker.subscribeAccount master amount = .ok (master + amount)) := by
  rw [tie_Broker_subscribeAccount]
  unfold Qs.Broker.subscribeAccountMaster
  simp only [lt_eq, zero_eq, decide_eq_true_eq]
  exact ⟨fun h => if_pos h, fun h => if_neg h⟩

/-- Account withdrawal: refused with `ValueError` when the amount is negative or exceeds the
master balance; otherwise the balance drops by exactly the amount, and so never becomes negative. -/
theorem C01_src_withdrawAccount (master amount : α) :
    (amount < 0 ∨ master < amount → Qs.Gen.Broker.withdrawAccount master amount = .error .value) ∧
    (¬ amount < 0 → ¬ master < amount →
      Qs.Gen.Broker.withdrawAccount master amount = .ok (master - amount) ∧ 0 ≤ master - amount) := by
  rw [tie_Broker_withdrawAccount]
  unfold Qs.Broker.withdrawAccountMaster
  simp only [lt_eq, zero_eq, decide_eq_true_eq]
  refine ⟨fun h => ?_, fun h0 h1 => ⟨by rw [if_neg h0, if_neg h1], sub_nonneg.mpr (not_lt.mp h1)⟩⟩
  by_cases h0 : amount < 0
  · exact if_pos h0
  · rw [if_neg h0]; exact if_pos (h.resolve_left h0)

/-- The model's account requests are the kernels lifted to the broker state. -/
theorem C01_src_account_ops (b : Qs.Broker α) (amount : α) :
    b.subscribeAccount amount =
      (match Qs.Gen.Broker.subscribeAccount b.master amount with
       | .ok m => ({ b with master := m }, none)
       | .error e => (b, some e)) ∧
    b.withdrawAccount amount =
      (match Qs.Gen.Broker.withdrawAccount b.master amount with
       | .ok m => ({ b with master := m }, none)
       | .error e => (b, some e)) := by
  rw [tie_Broker_subscribeAccount, tie_Broker_withdrawAccount]
  unfold Qs.Broker.subscribeAccount Qs.Broker.subscribeAccountMaster Qs.Broker.withdrawAccount
    Qs.Broker.withdrawAccountMaster
  by_cases h : lt amount zero = true
  · exact ⟨by rw [if_pos h, if_pos h], by rw [if_pos h, if_pos h]⟩
  · refine ⟨by rw [if_neg h, if_neg h], ?_⟩
    rw [if_neg h, if_neg h]
    by_cases h2 : lt b.master amount = true
    · rw [if_pos h2, if_pos h2]
    · rw [if_neg h2, if_neg h2]

/-- Transfer from the master account to a portfolio, broker side.  Refused with `ValueError` for a
negative amount, `KeyError` for an unknown portfolio id, `ValueError` when the amount exceeds the master balance — in that order;
otherwise the portfolio's own `subscribe_funds` is handed the broker's clock and **exactly the amount by which the master
balance is reduced**: the transfer is zero-sum. -/
theorem C01_src_subscribePortfolio (pids : List String) (clock : Int) (master : α) (pid : String) (amount : α) :
    (amount < 0 → Qs.Gen.Broker.subscribePortfolio pids clock master pid amount = .error .value) ∧
    (¬ amount < 0 → pid ∉ pids → Qs.Gen.Broker.subscribePortfolio pids clock master pid amount = .error .key) ∧
    (¬ amount < 0 → pid ∈ pids → master < amount →
      Qs.Gen.Broker.subscribePortfolio pids clock master pid amount = .error .value) ∧
    (∀ x, Qs.Gen.Broker.subscribePortfolio pids clock master pid amount = .ok x →
      x.master + x.amount = master ∧ x.amount = amount ∧ x.time = clock ∧ 0 ≤ x.master ∧ 0 ≤ x.amount) := by
  rw [tie_Broker_subscribePortfolio, subscribePortfolioXfer_eq]
  refine ⟨fun h => if_pos h, fun h0 hp => ?_, fun h0 hp hm => ?_, fun x hx => ?_⟩
  · rw [if_neg h0, if_pos hp]
  · rw [if_neg h0, if_neg (not_not.mpr hp), if_pos hm]
  · -- only the last leaf is `.ok`
    by_cases h0 : amount < 0
    · rw [if_pos h0] at hx; cases hx
    rw [if_neg h0] at hx
    by_cases hp : pid ∉ pids
    · rw [if_pos hp] at hx; cases hx
    rw [if_neg hp] at hx
    by_cases hm : master < amount
    · rw [if_pos hm] at hx; cases hx
    rw [if_neg hm] at hx; cases hx
    exact ⟨sub_add_cancel _ _, rfl, rfl, sub_nonneg.mpr (not_lt.mp hm), not_lt.mp h0⟩

/-- Transfer from a portfolio back to the master account, broker side: same refusals, the third
one against the portfolio's cash; an accepted transfer credits the master account with exactly the amount handed to the
portfolio's `withdraw_funds`. -/
theorem C01_src_withdrawPortfolio (pids : List String) (clock : Int) (master pfCash : α) (pid : String) (amount : α) :
    (amount < 0 → Qs.Gen.Broker.withdrawPortfolio pids clock master pfCash pid amount = .error .value) ∧
    (¬ amount < 0 → pid ∉ pids → Qs.Gen.Broker.withdrawPortfolio pids clock master pfCash pid amount = .error .key) ∧
    (¬ amount < 0 → pid ∈ pids → pfCash < amount →
      Qs.Gen.Broker.withdrawPortfolio pids clock master pfCash pid amount = .error .value) ∧
    (∀ x, Qs.Gen.Broker.withdrawPortfolio pids clock master pfCash pid amount = .ok x →
      x.master - x.amount = master ∧ x.amount = amount ∧ x.time = clock ∧ x.amount ≤ pfCash ∧ 0 ≤ x.amount) := by
  rw [tie_Broker_withdrawPortfolio, withdrawPortfolioXfer_eq]
  refine ⟨fun h => if_pos h, fun h0 hp => ?_, fun h0 hp hm => ?_, fun x hx => ?_⟩
  · rw [if_neg h0, if_pos hp]
  · rw [if_neg h0, if_neg (not_not.mpr hp), if_pos hm]
  · by_cases h0 : amount < 0
    · rw [if_pos h0] at hx; cases hx
    rw [if_neg h0] at hx
    by_cases hp : pid ∉ pids
    · rw [if_pos hp] at hx; cases hx
    rw [if_neg hp] at hx
    by_cases hm : pfCash < amount
    · rw [if_pos hm] at hx; cases hx
    rw [if_neg hm] at hx; cases hx
    exact ⟨add_sub_cancel_right _ _, rfl, rfl, not_lt.mp hm, not_lt.mp h0⟩

/-- The model's `subscribePortfolio` is the kernel lifted to the broker state (the withdrawal is not stated): the
broker-side refusals are the kernel's; on acceptance the portfolio's own method receives the kernel's time and amount
and, if it accepts too, the master balance becomes the kernel's.  The kernel looks the id up in `b.entries.map (·.pf.id)`. -/
theorem C01_src_portfolio_transfers (b : Qs.Broker α) (pid : String) (amount : α) :
    b.subscribePortfolio pid amount =
      (match Qs.Gen.Broker.subscribePortfolio (b.entries.map (·.pf.id)) b.clock b.master pid amount, b.find? pid with
       | .error e, _ => (b, some e)
       | .ok _, none => (b, some .key)
       | .ok x, some en =>
         match en.pf.subscribe x.time x.amount with
         | (pf, some err) => (b.setPf pf, some err)
         | (pf, none) => ({ (b.setPf pf) with master := x.master }, none)) := by
  rw [tie_Broker_subscribePortfolio, subscribePortfolioXfer_eq]
  unfold Qs.Broker.subscribePortfolio
  simp only [lt_eq, zero_eq, decide_eq_true_eq]
  have hmem : pid ∈ b.entries.map (·.pf.id) ↔ (b.find? pid).isSome := by
    rw [← Qs.has_iff_find, Qs.has_iff]; simp only [List.mem_map]
  by_cases h0 : amount < 0
  · rw [if_pos h0, if_pos h0]
  rw [if_neg h0, if_neg h0]
  cases hf : b.find? pid with
  | none => rw [if_pos (fun h => by rw [hmem, hf] at h; cases h)]
  | some en =>
    rw [if_neg (not_not.mpr (hmem.mpr (by rw [hf]; rfl)))]
    by_cases hm : b.master < amount
    · rw [if_pos hm]; exact if_pos hm
    · rw [if_neg hm]; refine (if_neg hm).trans ?_
      dsimp only
      rcases en.pf.subscribe b.clock amount with ⟨pf, _ | err⟩ <;> rfl

end Qs.Tie
