import QsProofs.Inst
import Mathlib.Data.Rat.Floor

/-!
# The executable `NumOps Rat` instance of the model is lawful

Core `Rat` is Mathlib's `ℚ`.  `instNumOpsRat` is the `instance : NumOps Rat` of `QsModel/Num.lean`
(the one compiled into the driver).  We prove it satisfies `LawfulNumOps` with respect to Mathlib's
field / order / floor structure on `ℚ`.  One fact, `lawful_of_tiny`, carries the proof; `ratNumOps_lawful` is it at
the instance's own `tiny`, and `ratNumOps_lawful'`, `ratNumOps_lawful_of_tiny`, `ratNumOps'_lawful` say the same of
the instance under its other spellings (`inferInstanceAs`, with `tiny` as a hypothesis, with `tiny` as a literal).
-/

namespace Qs.RatInst

/-- The model's executable instance (definitionally what instance resolution finds). -/
@[reducible] def ratNumOps : NumOps ℚ := instNumOpsRat

example : (inferInstance : NumOps Rat) = ratNumOps := rfl
example : (inferInstanceAs (NumOps Rat)) = instNumOpsRat := rfl

theorem floor_eq (a : ℚ) : Rat.floor a = ⌊a⌋ := rfl

theorem ceil_eq (a : ℚ) : Rat.ceil a = ⌈a⌉ := by
  rw [Rat.ceil_eq_neg_floor_neg, floor_eq, Int.floor_neg, neg_neg]

theorem abs_eq (a : ℚ) : (if a < 0 then -a else a) = |a| := by
  split
  · next h => exact (abs_of_neg h).symm
  · next h => exact (abs_of_nonneg (not_lt.mp h)).symm

/-! ## tiny: the exact rational value of the double `1e-8` (bits `0x3E45798EE2308C3A`) -/

theorem tiny_bits : (1e-8 : Float).toBits = 0x3E45798EE2308C3A := by decide +kernel

theorem tiny_value : RatBits.ofFloat 1e-8 = (3022314549036573 : ℚ) / 2 ^ 78 := by decide +kernel

theorem tiny_nonneg' : (0 : ℚ) ≤ RatBits.ofFloat 1e-8 := by
  rw [tiny_value]; positivity

theorem div_vs_half (r d : ℤ) (hd : 0 < d) :
    ((r : ℚ) / d < 1 / 2 ↔ 2 * r < d) ∧ (1 / 2 < (r : ℚ) / d ↔ d < 2 * r) := by
  have hd' : (0 : ℚ) < d := by exact_mod_cast hd
  rw [div_lt_iff₀ hd', lt_div_iff₀ hd']
  constructor <;> (rw [← Int.cast_lt (R := ℚ)]; push_cast; constructor <;> intro h <;> linarith)

theorem rhe_eq (q : ℚ) : RatBits.rhe q = @Num.roundHalfEvenI ℚ _ _ instNumOpsRat q := by
  have hd : (0 : ℤ) < q.den := by exact_mod_cast q.den_pos
  -- the fractional part `q - ⌊q⌋` is the remainder of `num / den` over `den`
  have hfrac : q - ((q.num / (q.den : ℤ) : ℤ) : ℚ)
      = ((q.num - q.num / (q.den : ℤ) * (q.den : ℤ) : ℤ) : ℚ) / ((q.den : ℤ) : ℚ) := by
    have hd' : ((q.den : ℤ) : ℚ) ≠ 0 := by exact_mod_cast hd.ne'
    rw [eq_div_iff hd', sub_mul]
    push_cast
    rw [Rat.mul_den_eq_num]
  obtain ⟨hlt, hgt⟩ := div_vs_half (q.num - q.num / (q.den : ℤ) * (q.den : ℤ)) q.den hd
  rw [← hfrac] at hlt hgt
  show FloatBits.rheRat q.num q.den = _
  unfold FloatBits.rheRat Num.roundHalfEvenI
  simp only [NumOps.floorI, NumOps.lt, NumOps.ofInt, Rat.floor_def q, Int.fdiv_eq_ediv_of_nonneg _ hd.le]
  have h12 : ((1 : ℤ) : ℚ) / ((2 : ℤ) : ℚ) = 1 / 2 := by norm_num
  rw [h12]
  simp only [decide_eq_true_eq, hlt, hgt, gt_iff_lt, beq_iff_eq]

theorem round2_eq (a : ℚ) :
    (RatBits.rhe (a * 100) : ℚ) / 100
      = ((@Num.roundHalfEvenI ℚ _ _ instNumOpsRat (a * 100) : ℤ) : ℚ) / 100 := by
  rw [rhe_eq]

/-- The laws hold of the executable instance whatever non-negative value `tiny` has: only `tiny_nonneg` looks at it. -/
theorem lawful_of_tiny (t : ℚ) (h : 0 ≤ t) : @LawfulNumOps ℚ _ _ _ _ { instNumOpsRat with tiny := t } :=
  @LawfulNumOps.mk ℚ _ _ _ _ { instNumOpsRat with tiny := t }
    (fun _ => rfl)
    (fun a b => by show decide (a < b) = true ↔ a < b; simp)
    (fun a b => by show decide (a ≤ b) = true ↔ a ≤ b; simp)
    (fun a b => by show decide (a = b) = true ↔ a = b; simp)
    abs_eq floor_eq ceil_eq h round2_eq

theorem ratNumOps_lawful : @LawfulNumOps ℚ _ _ _ _ instNumOpsRat := lawful_of_tiny _ tiny_nonneg'

theorem ratNumOps_lawful' : @LawfulNumOps ℚ _ _ _ _ (inferInstanceAs (NumOps Rat)) := ratNumOps_lawful

theorem ratNumOps_lawful_of_tiny (h : (0 : ℚ) ≤ (@NumOps.tiny ℚ instNumOpsRat)) :
    @LawfulNumOps ℚ _ _ _ _ instNumOpsRat := lawful_of_tiny _ h

/-- Registering the result lets every theorem of the project be instantiated at the driver's carrier. -/
instance : LawfulNumOps ℚ := ratNumOps_lawful

/-- The instance with `tiny` written as the literal rational value of the double `1e-8`. -/
@[reducible] def ratNumOps' : NumOps ℚ :=
  { instNumOpsRat with tiny := (3022314549036573 : ℚ) / 2 ^ 78 }

theorem ratNumOps'_eq : ratNumOps' = instNumOpsRat := by
  show ({ instNumOpsRat with tiny := (3022314549036573 : ℚ) / 2 ^ 78 } : NumOps ℚ) = _
  rw [← tiny_value]
  rfl

theorem ratNumOps'_lawful : @LawfulNumOps ℚ _ _ _ _ ratNumOps' := lawful_of_tiny _ (by positivity)

/-! ## Non-vacuity: the laws compute the expected values on concrete inputs -/

example : (NumOps.round2 (5 / 1000 : ℚ)) = 0 := by decide +kernel         -- 0.5 cents: tie → even (0)
example : (NumOps.round2 (15 / 1000 : ℚ)) = 2 / 100 := by decide +kernel  -- 1.5 cents: tie → even (2)
example : (NumOps.round2 (-126 / 10000 : ℚ)) = -1 / 100 := by decide +kernel
example : RatBits.rhe (-5 / 2) = -2 ∧ RatBits.rhe (7 / 2) = 4 ∧ RatBits.rhe (-7 / 3) = -2 := by decide +kernel
example : Num.roundHalfEvenI (-5 / 2 : ℚ) = -2 := by rw [← rhe_eq]; decide +kernel

#print axioms tiny_bits
#print axioms tiny_value
#print axioms rhe_eq
#print axioms ratNumOps_lawful
#print axioms ratNumOps_lawful'
#print axioms ratNumOps_lawful_of_tiny
#print axioms ratNumOps'_lawful
#print axioms ratNumOps'_eq

end Qs.RatInst
