import QsProofs.Props.C08

/-!
# C08, converse direction — whenever the documented rules are applicable the backtest does not raise

`C08_refines` (in `C08.lean`) says: if the operational session finishes without error, the reference backtest is
defined and agrees.  Here the other direction: if the reference backtest `referenceRun cfg w px` is defined (every
needed price exists, every sizing succeeds) and the session can be constructed, then `Session.run cfg (fixedAlpha w) px`
finishes without error and agrees with the reference on every observable.

In this direction no quote hypothesis is needed: the reference being defined supplies every quote the session's result
depends on (`C08_refines_converse_strong`, and per event the `_strong` theorems). The theorems without `_strong` state
the same conclusions with additional hypotheses (`hquoted`, resp. an asset set `A` with `hq`, `has`). `C08_equiv`
needs `hquoted` for its forward half.

`hinit` (or the checks `0 ≤ initialCash`, `start ≤ end`, `ParamOK`; the fourth, a valid schedule, follows from the
reference being defined) cannot be dropped: the constructor refuses configurations that do not make the reference
undefined (the examples at the end).
-/

set_option linter.unusedSectionVars false

namespace Qs.Conv
variable {α : Type} [Field α] [LinearOrder α] [IsStrictOrderedRing α] [FloorRing α] [NumOps α] [LawfulNumOps α]

/-- the sizer's parameter validation of `__init__`: cash buffer in `[0, 1]` (long only) resp. gross leverage `> 0` -/
def ParamOK (cfg : SessionCfg α) : Prop :=
  if cfg.longOnly then 0 ≤ cfg.param ∧ cfg.param ≤ 1 else 0 < cfg.param

end Qs.Conv

namespace Qs
open Qs.Ref Qs.Conv

section
variable {α : Type} [Field α] [LinearOrder α] [IsStrictOrderedRing α] [FloorRing α] [NumOps α] [LawfulNumOps α]

/-- `Session.init` succeeds under the four checks of `BacktestTradingSession.__init__`: non-negative initial cash,
`start ≤ end`, a valid rebalance schedule (weekday name), a valid sizer parameter.  (Sufficient; the converse reading
is `Sess.init_iff`.) -/
theorem C08_init_ok (cfg : SessionCfg α) (hcash : 0 ≤ cfg.initialCash) (hrange : cfg.start ≤ cfg.end_)
    (sched : List Int) (hsched : scheduleOf cfg = .ok sched) (hparam : ParamOK cfg) :
    ∃ s0, Session.init cfg = .ok (s0, (bdayRange cfg.start cfg.end_).flatMap (dayTemplate false false), sched) := by
  have hev := (Cal.simEvents_ok_iff (pre := false) (post := false)).2 ⟨hrange, rfl⟩
  have hchk : ∃ v, (if cfg.longOnly then dwCheckBuffer cfg.param else lsCheckLeverage cfg.param) = .ok v := by
    unfold ParamOK at hparam
    cases hl : cfg.longOnly <;> simp only [hl, if_true, if_false, Bool.false_eq_true] at hparam ⊢
    · exact ⟨cfg.param, by rw [lsCheckLeverage_eq, if_neg (not_le.mpr hparam)]⟩
    · exact ⟨cfg.param, by
        rw [dwCheckBuffer_eq, if_neg (not_or.mpr ⟨not_lt.mpr hparam.1, not_lt.mpr hparam.2⟩)]⟩
  obtain ⟨v, hv⟩ := hchk
  exact ⟨_, Sess.init_iff.2 ⟨_, v, Sess.initBroker_eq cfg hcash, hev, hsched, hv, rfl⟩⟩

theorem C08_ref_sched (cfg : SessionCfg α) (w : List (String × α)) (px : Px α) (r : RefState α)
    (href : referenceRun cfg w px = some r) : ∃ sched, scheduleOf cfg = .ok sched := by
  cases hsc : scheduleOf cfg with
  | error e =>
    unfold referenceRun at href
    rw [hsc] at href
    cases href
  | ok sched => exact ⟨sched, rfl⟩

/-- If the session can be constructed and the reference backtest is defined, the session runs to the end without error
and agrees with the reference on every observable.  (`hquoted` is needed only in the forward direction
`C08_refines`, where a held asset without a quote makes the reference undefined while the session carries on with a
stale mark.  Here the reference being defined supplies the quotes that matter: `refFillAll` for every filled order,
`refEquity` for every sizing and every equity record; a held asset that is unquoted at some market open is left
unmarked by the session and re-marked at the close, and nothing observable depends on the stale price in between.) -/
theorem C08_refines_converse_strong (cfg : SessionCfg α) (w : List (String × α)) (px : Px α)
    (hnosig : cfg.signalSpecs = none)
    (hpos : ∀ t a p, px t a = some p → 0 < p)
    (hstart : todOf cfg.start ≤ OPEN)
    (s0 : Session α) (events : List SimEvent) (sched : List Int)
    (hinit : Session.init cfg = .ok (s0, events, sched))
    (r : RefState α) (href : referenceRun cfg w px = some r) :
    ∃ s, Session.run cfg (fixedAlpha w) px = .ok (s, none) ∧
      s.fills = r.fills ∧ s.equity = r.equity ∧ s.allocations.map (·.1) = r.allocDates ∧
      s.broker.portfolioCash PORTFOLIO_ID = .ok r.cash ∧ heldOf s.broker = r.hold ∧
      pendingOf s.broker = r.pending := by
  obtain ⟨hok, t', hsr⟩ :=
    (run_rel cfg w px hnosig hpos hstart s0 events sched hinit (Or.inl (by rw [href]; rfl))).conv href
  refine ⟨_, ?_, observables_of_SR cfg _ r t' hsr⟩
  rw [Sess.run_eq, hinit]
  exact congrArg Except.ok (Prod.ext rfl hok)

/-- `C08_refines_converse_strong` under the hypothesis `hquoted` of `C08_refines` as well. -/
theorem C08_refines_converse (cfg : SessionCfg α) (w : List (String × α)) (px : Px α)
    (hnosig : cfg.signalSpecs = none)
    (hpos : ∀ t a p, px t a = some p → 0 < p)
    (hstart : todOf cfg.start ≤ OPEN)
    (hquoted : ∀ d ∈ bdayRange cfg.start cfg.end_, ∀ a, ((∃ t, a ∈ cfg.uni.assets t) ∨ a ∈ w.map (·.1)) →
        (px (d * 86400 + OPEN) a).isSome ∧ (px (d * 86400 + CLOSE) a).isSome)
    (s0 : Session α) (events : List SimEvent) (sched : List Int)
    (hinit : Session.init cfg = .ok (s0, events, sched))
    (r : RefState α) (href : referenceRun cfg w px = some r) :
    ∃ s, Session.run cfg (fixedAlpha w) px = .ok (s, none) ∧
      s.fills = r.fills ∧ s.equity = r.equity ∧ s.allocations.map (·.1) = r.allocDates ∧
      s.broker.portfolioCash PORTFOLIO_ID = .ok r.cash ∧ heldOf s.broker = r.hold ∧
      pendingOf s.broker = r.pending :=
  C08_refines_converse_strong cfg w px hnosig hpos hstart s0 events sched hinit r href

/-- `C08_refines_converse_strong` with `hinit` replaced by the constructor's checks: non-negative initial cash,
`start ≤ end`, a valid sizer parameter (`ParamOK`); the schedule is valid because the reference is defined. -/
theorem C08_refines_converse_strong_init (cfg : SessionCfg α) (w : List (String × α)) (px : Px α)
    (hnosig : cfg.signalSpecs = none)
    (hpos : ∀ t a p, px t a = some p → 0 < p)
    (hstart : todOf cfg.start ≤ OPEN)
    (hcash : 0 ≤ cfg.initialCash) (hrange : cfg.start ≤ cfg.end_) (hparam : ParamOK cfg)
    (r : RefState α) (href : referenceRun cfg w px = some r) :
    ∃ s, Session.run cfg (fixedAlpha w) px = .ok (s, none) ∧
      s.fills = r.fills ∧ s.equity = r.equity ∧ s.allocations.map (·.1) = r.allocDates ∧
      s.broker.portfolioCash PORTFOLIO_ID = .ok r.cash ∧ heldOf s.broker = r.hold ∧
      pendingOf s.broker = r.pending := by
  obtain ⟨sched, hsc⟩ := C08_ref_sched cfg w px r href
  obtain ⟨s0, hinit⟩ := C08_init_ok cfg hcash hrange sched hsc hparam
  exact C08_refines_converse_strong cfg w px hnosig hpos hstart s0 _ sched hinit r href

/-- `C08_refines_converse_strong_init` under `hquoted` as well. -/
theorem C08_refines_converse_init (cfg : SessionCfg α) (w : List (String × α)) (px : Px α)
    (hnosig : cfg.signalSpecs = none)
    (hpos : ∀ t a p, px t a = some p → 0 < p)
    (hstart : todOf cfg.start ≤ OPEN)
    (hquoted : ∀ d ∈ bdayRange cfg.start cfg.end_, ∀ a, ((∃ t, a ∈ cfg.uni.assets t) ∨ a ∈ w.map (·.1)) →
        (px (d * 86400 + OPEN) a).isSome ∧ (px (d * 86400 + CLOSE) a).isSome)
    (hcash : 0 ≤ cfg.initialCash) (hrange : cfg.start ≤ cfg.end_) (hparam : ParamOK cfg)
    (r : RefState α) (href : referenceRun cfg w px = some r) :
    ∃ s, Session.run cfg (fixedAlpha w) px = .ok (s, none) ∧
      s.fills = r.fills ∧ s.equity = r.equity ∧ s.allocations.map (·.1) = r.allocDates ∧
      s.broker.portfolioCash PORTFOLIO_ID = .ok r.cash ∧ heldOf s.broker = r.hold ∧
      pendingOf s.broker = r.pending :=
  C08_refines_converse_strong_init cfg w px hnosig hpos hstart hcash hrange hparam r href

/-- Under the side conditions and a constructible session: the session finishes without
error IFF the reference backtest is defined; and whenever both hold, all observables agree. -/
theorem C08_equiv (cfg : SessionCfg α) (w : List (String × α)) (px : Px α)
    (hnosig : cfg.signalSpecs = none)
    (hpos : ∀ t a p, px t a = some p → 0 < p)
    (hstart : todOf cfg.start ≤ OPEN)
    (hquoted : ∀ d ∈ bdayRange cfg.start cfg.end_, ∀ a, ((∃ t, a ∈ cfg.uni.assets t) ∨ a ∈ w.map (·.1)) →
        (px (d * 86400 + OPEN) a).isSome ∧ (px (d * 86400 + CLOSE) a).isSome)
    (s0 : Session α) (events : List SimEvent) (sched : List Int)
    (hinit : Session.init cfg = .ok (s0, events, sched)) :
    ((∃ s, Session.run cfg (fixedAlpha w) px = .ok (s, none)) ↔ (∃ r, referenceRun cfg w px = some r)) ∧
    ∀ s r, Session.run cfg (fixedAlpha w) px = .ok (s, none) → referenceRun cfg w px = some r →
      s.fills = r.fills ∧ s.equity = r.equity ∧ s.allocations.map (·.1) = r.allocDates ∧
      s.broker.portfolioCash PORTFOLIO_ID = .ok r.cash ∧ heldOf s.broker = r.hold ∧
      pendingOf s.broker = r.pending := by
  refine ⟨⟨?_, ?_⟩, ?_⟩
  · rintro ⟨s, hs⟩
    obtain ⟨r, hr, _⟩ := C08_refines cfg w px hnosig hpos hstart hquoted s hs
    exact ⟨r, hr⟩
  · rintro ⟨r, hr⟩
    obtain ⟨s, hs, _⟩ := C08_refines_converse cfg w px hnosig hpos hstart hquoted s0 events sched hinit r hr
    exact ⟨s, hs⟩
  · intro s r hs hr
    obtain ⟨r', hr', h⟩ := C08_refines cfg w px hnosig hpos hstart hquoted s hs
    rw [hr] at hr'
    simp only [Option.some.injEq] at hr'
    subst hr'
    exact h

/-! ## per operation (abstraction relation `Ref.SR` / `Ref.BR` as in `C08.lean`) -/

/-- one `broker.update(dt)` on a broker that represents a reference state returns normally
when time does not go backwards and — in exchange hours — every pending order's asset has a price. -/
theorem C08_conv_update (fee : FeeModel α) (px : Px α) (hpos : ∀ t a p, px t a = some p → 0 < p)
    (b : Broker α) (st : RefState α) (t0 t : Int) (hbr : BR fee b st t0) (ht : t0 ≤ t)
    (hq : isOpen t = true → ∀ o ∈ st.pending, (px t o.1).isSome) :
    (b.update t (quotesAt px t)).2 = none := by
  refine (update_rel fee px hpos b st t0 t hbr ht).ok_iff.mpr ?_
  cases ho : isOpen t with
  | true =>
    rw [refUpdate_open _ _ _ ho]
    exact refFillAll_isSome fun o ho' => hq ho o ((mem_sellsFirst _ _ _).mp ho')
  | false => rw [refUpdate_closed _ _ _ ho]; rfl

theorem C08_conv_fill_quoted (fee : FeeModel α) (px : Px α) (t : Int) (os : List (String × Int))
    (st st' : RefState α) (h : refFillAll fee px t st os = some st') : ∀ o ∈ os, (px t o.1).isSome :=
  refFillAll_quoted h

/-- `QuantTradingSystem.__call__` returns normally when the reference's sizing is defined
and (exchange open) the reference fills the resulting orders. -/
theorem C08_conv_rebalance (cfg : SessionCfg α) (w : List (String × α)) (px : Px α)
    (hpos : ∀ t a p, px t a = some p → 0 < p) (t : Int) (s : Session α) (st : RefState α)
    (hbr : BR cfg.fee s.broker st t) (hm : Marked px t s.broker)
    (os : List (String × Int)) (hos : refOrders cfg w px t st = some os)
    (hopen : isOpen t = true → st.pending = [] ∧ ∃ st', refFillAll cfg.fee px t st os = some st') :
    (rebalanceAt cfg (fixedAlpha w) px t s).2 = none := by
  refine (rebalanceAt_rel cfg (fixedAlpha w) px hpos t s st ⟨hbr, hm.markedQ⟩ (fun ho => (hopen ho).1)
    (refOrders_quoted (cfg := cfg) (w := w) (by rw [hos]; rfl))).ok_iff.mpr ?_
  show (refRebalance cfg w px t st).isSome
  rw [refRebalance, hos, Option.bind_some]
  cases ho : isOpen t with
  | true =>
    obtain ⟨-, st', h⟩ := hopen ho
    rw [refExecute_open _ _ _ _ ho, h]; rfl
  | false => rw [refExecute_closed _ _ _ _ ho]; rfl

/-- stages 1–2 of `refDay` defined ⇒ the market-open event returns normally and the
session represents the state after stage 2 (no quote hypothesis). -/
theorem C08_conv_open_strong (cfg : SessionCfg α) (w : List (String × α)) (px : Px α)
    (hpos : ∀ t a p, px t a = some p → 0 < p) (sched : List Int)
    (s : Session α) (st : RefState α) (t0 t : Int) (hsr : SR cfg s st t0) (ht : t0 ≤ t)
    (ho : isOpen t = true) (st1 st2 : RefState α)
    (h1 : refFillAll cfg.fee px t { st with pending := [] }
          (sellsFirst (fun (o : String × Int) => decide (o.2 < 0)) st.pending) = some st1)
    (h2 : refOpenReb cfg w px sched t st1 = some st2) :
    (s.step cfg (fixedAlpha w) px sched ⟨t, .marketOpen⟩).2 = none ∧
    SR cfg (s.step cfg (fixedAlpha w) px sched ⟨t, .marketOpen⟩).1 st2 t ∧ st2.pending = [] :=
  have hev : refEvent cfg w px sched st ⟨t, .marketOpen⟩ = some st2 := by
    rw [refEvent_open _ _ _ _ _ _ ho, h1, Option.bind_some, h2]
  have h := (step_rel cfg w px hpos sched s st t0 ⟨t, .marketOpen⟩ hsr ht
    (readsQuoted_of_isSome (by rw [hev]; rfl))).conv hev
  ⟨h.1, h.2.1, (refOpenReb_pending ho h2).trans (refFillAll_frame h1).1⟩

/-- stages 3–4 of `refDay` defined ⇒ the market-close event returns normally and the
session represents the state after stage 4 (no quote hypothesis). -/
theorem C08_conv_close_strong (cfg : SessionCfg α) (w : List (String × α)) (px : Px α)
    (hpos : ∀ t a p, px t a = some p → 0 < p) (sched : List Int)
    (s : Session α) (st : RefState α) (t0 t : Int) (hsr : SR cfg s st t0) (ht : t0 ≤ t)
    (ho : isOpen t = false) (st3 st4 : RefState α)
    (h3 : refCloseReb cfg w px sched t st = some st3) (h4 : refCloseEq cfg px t st3 = some st4) :
    (s.step cfg (fixedAlpha w) px sched ⟨t, .marketClose⟩).2 = none ∧
    SR cfg (s.step cfg (fixedAlpha w) px sched ⟨t, .marketClose⟩).1 st4 t :=
  have hev : refEvent cfg w px sched st ⟨t, .marketClose⟩ = some st4 := by
    rw [refEvent_close _ _ _ _ _ _ ho, h3, Option.bind_some, h4]
  have h := (step_rel cfg w px hpos sched s st t0 ⟨t, .marketClose⟩ hsr ht
    (readsQuoted_of_isSome (by rw [hev]; rfl))).conv hev
  ⟨h.1, h.2.1⟩

/-- `refDay … d` defined ⇒ both events of day `d` return normally and the session
represents the reference's next state (no quote hypothesis). -/
theorem C08_conv_day_strong (cfg : SessionCfg α) (w : List (String × α)) (px : Px α)
    (hpos : ∀ t a p, px t a = some p → 0 < p) (sched : List Int)
    (s : Session α) (st : RefState α) (t0 d : Int) (hsr : SR cfg s st t0) (ht : t0 ≤ d * 86400 + OPEN)
    (hd : weekday d ≤ 4) (st' : RefState α) (hday : refDay cfg w px sched st d = some st') :
    ∃ s1 s2, s.step cfg (fixedAlpha w) px sched ⟨d * 86400 + OPEN, .marketOpen⟩ = (s1, none) ∧
      s1.step cfg (fixedAlpha w) px sched ⟨d * 86400 + CLOSE, .marketClose⟩ = (s2, none) ∧
      SR cfg s2 st' (d * 86400 + CLOSE) := by
  rw [refDay_eq] at hday
  obtain ⟨st1, h1, hday⟩ := Option.bind_eq_some_iff.mp hday
  obtain ⟨st2, h2, hday⟩ := Option.bind_eq_some_iff.mp hday
  obtain ⟨st3, h3, h4⟩ := Option.bind_eq_some_iff.mp hday
  obtain ⟨a1, a2, _⟩ := C08_conv_open_strong cfg w px hpos sched s st t0 _ hsr ht
    (isOpen_open d (decide_eq_true hd)) st1 st2 h1 h2
  rcases hs1 : s.step cfg (fixedAlpha w) px sched ⟨d * 86400 + OPEN, .marketOpen⟩ with ⟨s1, e1⟩
  rw [hs1] at a1 a2
  cases a1
  have hle : d * 86400 + OPEN ≤ d * 86400 + CLOSE := by unfold OPEN CLOSE; omega
  obtain ⟨b1, b2⟩ := C08_conv_close_strong cfg w px hpos sched s1 st2 _ _ a2 hle (isOpen_close d) st3 st' h3 h4
  rcases hs2 : s1.step cfg (fixedAlpha w) px sched ⟨d * 86400 + CLOSE, .marketClose⟩ with ⟨s2, e2⟩
  rw [hs2] at b1 b2
  cases b1
  exact ⟨s1, s2, rfl, hs2, b2⟩

/-- the first half of `C08_conv_open_strong`, with an asset set `A` as in `C08_sim_open` -/
theorem C08_conv_open (cfg : SessionCfg α) (w : List (String × α)) (px : Px α)
    (hpos : ∀ t a p, px t a = some p → 0 < p) (sched : List Int) (A : String → Prop)
    (s : Session α) (st : RefState α) (t0 t : Int) (hsr : SR cfg s st t0) (ht : t0 ≤ t)
    (ho : isOpen t = true) (hq : ∀ a, A a → (px t a).isSome) (has : Assets A st)
    (st1 st2 : RefState α)
    (h1 : refFillAll cfg.fee px t { st with pending := [] }
          (sellsFirst (fun (o : String × Int) => decide (o.2 < 0)) st.pending) = some st1)
    (h2 : refOpenReb cfg w px sched t st1 = some st2) :
    (s.step cfg (fixedAlpha w) px sched ⟨t, .marketOpen⟩).2 = none :=
  (C08_conv_open_strong cfg w px hpos sched s st t0 t hsr ht ho st1 st2 h1 h2).1

/-- the market-close event returns normally when stage 3 of `refDay` is defined. -/
theorem C08_conv_close (cfg : SessionCfg α) (w : List (String × α)) (px : Px α)
    (hpos : ∀ t a p, px t a = some p → 0 < p) (sched : List Int) (A : String → Prop)
    (s : Session α) (st : RefState α) (t0 t : Int) (hsr : SR cfg s st t0) (ht : t0 ≤ t)
    (ho : isOpen t = false) (hq : ∀ a, A a → (px t a).isSome) (has : Assets A st)
    (st3 : RefState α) (h3 : refCloseReb cfg w px sched t st = some st3) :
    (s.step cfg (fixedAlpha w) px sched ⟨t, .marketClose⟩).2 = none := by
  have hup := refUpdate_closed cfg.fee px st ho
  have hpre := (stages_rel cfg w px hpos sched s st t0 ⟨t, .marketClose⟩ hsr ht fun _ st1 h1 x hx => by
    cases hup.symm.trans h1
    exact hq _ (has.1 _ (List.mem_map.mpr ⟨x, hx, rfl⟩))).conv
      (r := st3) (by rw [hup, Option.bind_some, ← refCloseReb_eq _ _ _ _ _ _ ho]; exact h3)
  rw [Sess.step_stages]
  -- the equity record never raises
  generalize Sess.andThen (Sess.andThen _ _) _ = x at hpre ⊢
  obtain ⟨s3, e⟩ := x
  cases hpre.1
  exact Sess.eqStage_none cfg _ s3

/-- `C08_conv_day_strong` together with `refDay_assets`: the book stays in `A` -/
theorem C08_conv_day (cfg : SessionCfg α) (w : List (String × α)) (px : Px α)
    (hpos : ∀ t a p, px t a = some p → 0 < p) (sched : List Int) (A : String → Prop)
    (hA : ∀ t a, a ∈ cfg.uni.assets t → A a) (hAw : ∀ a ∈ w.map (·.1), A a)
    (s : Session α) (st : RefState α) (t0 d : Int) (hsr : SR cfg s st t0) (ht : t0 ≤ d * 86400 + OPEN)
    (hd : weekday d ≤ 4)
    (hq : ∀ a, A a → (px (d * 86400 + OPEN) a).isSome ∧ (px (d * 86400 + CLOSE) a).isSome) (has : Assets A st)
    (st' : RefState α) (hday : refDay cfg w px sched st d = some st') :
    ∃ s1 s2, s.step cfg (fixedAlpha w) px sched ⟨d * 86400 + OPEN, .marketOpen⟩ = (s1, none) ∧
      s1.step cfg (fixedAlpha w) px sched ⟨d * 86400 + CLOSE, .marketClose⟩ = (s2, none) ∧
      SR cfg s2 st' (d * 86400 + CLOSE) ∧ Assets A st' := by
  obtain ⟨s1, s2, h1, h2, h3⟩ := C08_conv_day_strong cfg w px hpos sched s st t0 d hsr ht hd st' hday
  exact ⟨s1, s2, h1, h2, h3, refDay_assets cfg w px A hA hAw hd hday has⟩

end

/-! ## Non-vacuity at `α := ℚ` (the examples of `C08.lean`) -/

section nonvacuity

noncomputable local instance (priority := high) ratOps08c : NumOps ℚ := fieldNumOps ℚ
local instance (priority := high) ratLawful08c : LawfulNumOps ℚ := fieldNumOps_lawful ℚ

/-- the reference backtest of the weekly example is defined (kernel evaluation of the specification) -/
theorem exRef08 : ∃ r, referenceRun exCfg08 exW08 exPx08 = some r :=
  Option.isSome_iff_exists.mp (by decide +kernel)

theorem exParamOK08 : ParamOK exCfg08 := by
  unfold ParamOK exCfg08
  norm_num

/-- all hypotheses of `C08_refines_converse_init` hold on the example; its conclusion — the session does not
raise — is obtained FROM the reference here (not by running the session), with the observables read off the
reference: one fill of 100 `A` at 9, final cash 100, holdings `A ↦ 100`. -/
example : ∃ s r, referenceRun exCfg08 exW08 exPx08 = some r ∧
    Session.run exCfg08 (fixedAlpha exW08) exPx08 = .ok (s, none) ∧
    s.fills = r.fills ∧ s.equity = r.equity ∧ heldOf s.broker = r.hold ∧
    s.broker.portfolioCash PORTFOLIO_ID = .ok 100 ∧ heldOf s.broker = [("A", 100)] := by
  obtain ⟨r, hr⟩ := exRef08
  obtain ⟨s, hs, h1, h2, _, h4, h5, _⟩ :=
    C08_refines_converse_init exCfg08 exW08 exPx08 rfl exPx08_pos (by decide) exQuoted08
      (by unfold exCfg08; norm_num) (by decide) exParamOK08 r hr
  have get := @get_of_map _ _ r hr
  have v1 := get (·.cash) 100 (by decide +kernel)
  have v2 := get (·.hold) [("A", 100)] (by decide +kernel)
  exact ⟨s, r, hr, hs, h1, h2, h5, by rw [h4, v1], by rw [h5, v2]⟩

/-- the equivalence on the example: both sides hold -/
example : (∃ s, Session.run exCfg08 (fixedAlpha exW08) exPx08 = .ok (s, none)) ∧
    (∃ r, referenceRun exCfg08 exW08 exPx08 = some r) := by
  obtain ⟨r0, hr0⟩ := exRef08
  obtain ⟨sched, hsc⟩ := C08_ref_sched exCfg08 exW08 exPx08 r0 hr0
  obtain ⟨s0, hinit⟩ := C08_init_ok exCfg08 (by unfold exCfg08; norm_num) (by decide) sched hsc exParamOK08
  have h := (C08_equiv exCfg08 exW08 exPx08 rfl exPx08_pos (by decide) exQuoted08 s0 _ _ hinit).1
  exact ⟨h.mpr exRef08, exRef08⟩

/-! ### the equivalence on a case where both sides FAIL: sizing is refused

Long-only sizing refuses a negative weight (`dwNormalise`).  With weight `A ↦ -1` the Tuesday rebalance raises in
the session and the reference is undefined; all side conditions and `hinit` hold. -/

def exW08neg : List (String × ℚ) := [("A", -1)]

example : (¬ ∃ s, Session.run exCfg08 (fixedAlpha exW08neg) exPx08 = .ok (s, none)) ∧
    referenceRun exCfg08 exW08neg exPx08 = none := by
  have hnone : referenceRun exCfg08 exW08neg exPx08 = none :=
    Option.isNone_iff_eq_none.mp (by decide +kernel)
  refine ⟨?_, hnone⟩
  obtain ⟨r0, hr0⟩ := exRef08
  obtain ⟨sched, hsc⟩ := C08_ref_sched exCfg08 exW08 exPx08 r0 hr0
  obtain ⟨s0, hinit⟩ := C08_init_ok exCfg08 (by unfold exCfg08; norm_num) (by decide) sched hsc exParamOK08
  have hq := exQuotedA exCfg08 exW08neg (fun t a h => by simpa [exCfg08, UniverseSpec.assets, staticAssets] using h)
    (fun a h => by simpa [exW08neg] using h) (bdayRange exCfg08.start exCfg08.end_)
  have h := (C08_equiv exCfg08 exW08neg exPx08 rfl exPx08_pos (by decide) hq s0 _ _ hinit).1
  intro hs
  obtain ⟨r, hr⟩ := h.mp hs
  rw [hnone] at hr
  cases hr

/-! ### the strong converse where `hquoted` FAILS

Monday … Thursday, rebalanced on Tuesday; `A` has no price at Thursday's open (and only there).  `A` is held at that
instant, so `hquoted` is false; the reference is nevertheless defined (nothing is pending or scheduled at that
open), and `C08_refines_converse_strong` gives the error-free session and the agreement. -/

def exPx08f : Px ℚ := fun t a =>
  if a = "A" then (if t = 18634 * 86400 + 52200 then none else if t % 86400 = 52200 then some 9 else some 10) else none

noncomputable def exCfg08f : SessionCfg ℚ := { exCfg08 with end_ := 18634 * 86400 }

theorem exPx08f_pos : ∀ t a p, exPx08f t a = some p → 0 < p := by
  intro t a p h
  unfold exPx08f at h
  split at h
  · split at h
    · cases h
    · split at h <;> (cases h; norm_num)
  · cases h

example : ∃ s r, referenceRun exCfg08f exW08 exPx08f = some r ∧
    Session.run exCfg08f (fixedAlpha exW08) exPx08f = .ok (s, none) ∧
    s.fills = r.fills ∧ s.equity = r.equity ∧ heldOf s.broker = [("A", 100)] ∧
    r.equity.map (·.2) = [1000, 1000, 1100, 1100] ∧
    -- `hquoted` fails: Thursday is a business day of the range, `A` is a universe asset, no price at its open
    (18634 ∈ bdayRange exCfg08f.start exCfg08f.end_ ∧ (∃ t, "A" ∈ exCfg08f.uni.assets t) ∧
      (exPx08f (18634 * 86400 + OPEN) "A").isSome = false) := by
  obtain ⟨r, hr⟩ : ∃ r, referenceRun exCfg08f exW08 exPx08f = some r :=
    Option.isSome_iff_exists.mp (by decide +kernel)
  have hpar : ParamOK exCfg08f := by unfold ParamOK exCfg08f exCfg08; norm_num
  obtain ⟨s, hs, h1, h2, _, _, h5, _⟩ :=
    C08_refines_converse_strong_init exCfg08f exW08 exPx08f rfl exPx08f_pos (by decide)
      (by unfold exCfg08f exCfg08; norm_num) (by decide) hpar r hr
  have get := @get_of_map _ _ r hr
  have v2 := get (·.hold) [("A", 100)] (by decide +kernel)
  have v3 := get (fun r => r.equity.map (·.2)) [1000, 1000, 1100, 1100] (by decide +kernel)
  refine ⟨s, r, hr, hs, h1, h2, by rw [h5, v2], v3, by decide, ⟨0, by decide⟩, by decide⟩

/-! ### `hinit` cannot be dropped

The same configuration with `end < start`: the reference is defined (no business day: it returns the initial
state), every side condition of `C08_refines_converse` holds (`hquoted` vacuously), but the constructor raises
(`simEvents`: "end before start"), so the session does not finish. -/

noncomputable def exCfg08d : SessionCfg ℚ := { exCfg08 with end_ := 18630 * 86400 }

example : (∃ r, referenceRun exCfg08d exW08 exPx08 = some r) ∧
    (¬ ∃ s, Session.run exCfg08d (fixedAlpha exW08) exPx08 = .ok (s, none)) ∧
    exCfg08d.signalSpecs = none ∧ todOf exCfg08d.start ≤ OPEN ∧ bdayRange exCfg08d.start exCfg08d.end_ = [] := by
  exact ⟨Option.isSome_iff_exists.mp (by decide +kernel),
    fun h => Bool.false_ne_true ((show okNoErr _ = false by decide +kernel).symm.trans ((okNoErr_iff _).mpr h)),
    rfl, by decide, by decide⟩

/-- likewise an invalid cash buffer (`param = 2 > 1`) is refused by the constructor only -/
noncomputable def exCfg08e : SessionCfg ℚ := { exCfg08 with param := 2, rebalance := .weekly "FRI" }

example : (∃ r, referenceRun exCfg08e exW08 exPx08 = some r) ∧
    (¬ ∃ s, Session.run exCfg08e (fixedAlpha exW08) exPx08 = .ok (s, none)) ∧ ¬ ParamOK exCfg08e := by
  refine ⟨Option.isSome_iff_exists.mp (by decide +kernel), ?_, ?_⟩
  · exact fun h => Bool.false_ne_true ((show okNoErr _ = false by decide +kernel).symm.trans ((okNoErr_iff _).mpr h))
  · unfold ParamOK exCfg08e exCfg08
    norm_num

end nonvacuity
end Qs
