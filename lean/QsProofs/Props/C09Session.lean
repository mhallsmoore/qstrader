import QsProofs.Lemmas.SessionLifts
import QsProofs.Props.C09
import Mathlib.Data.Rat.Floor
import Mathlib.Tactic.NormNum

/-!
# C09 (session level) — once the rebalance orders fill, holdings equal the target

Property C09: "… once those orders fill, holdings equal the target", "repeated over successive rebalances".

`Props/C09.lean` proves the arithmetic (`C09_reach_exact`: `applyOrders held orders = target`, where `applyOrders` is
*defined* as held + ordered quantity) and C04 proves that the broker fills every queued order in full.  Here the two
are joined on the model's own state: the positions the broker stores after the fills (`heldOf`, what the next
portfolio construction reads) are the target, as finite maps.

"`b` represents `st`" is `Ref.BR`, the abstraction relation of C08; `Lift.init_rep` / `Lift.step_rep` / `Lift.run_rep`
prove it for `Session.init` and along every run without error, for any alpha model (with or without signals).

Hypotheses:
* `hpos` — prices are positive (a non-positive price is refused by the position handler);
* every held asset is quoted at the update instant (`hq`) — a held asset without a quote is left unmarked by the
  model (outside every quantifier of the property); an *ordered* asset without a quote makes the update raise, which
  "returns normally" excludes;
* `hα` — the alpha model's weights are a dict (pairwise distinct keys).
-/

namespace Qs
open Qs.Sess Qs.Lift Qs.Ref

section
variable {α : Type} [Field α] [LinearOrder α] [IsStrictOrderedRing α] [FloorRing α] [NumOps α] [LawfulNumOps α]

/-- C09 (reach) for the session's sizer: filling `target − held` in full gives the target, for every asset -/
theorem reach_target (cfg : SessionCfg α) (alpha : Alpha α) (px : Px α) (t : Int) (s : Session α)
    (hα : ((alpha t s.signals (cfg.uni.assets t)).map (·.1)).Nodup) (tq : List (String × Int))
    (h : sizerOf cfg (equityOf s.broker) (px t) (recordedWeights cfg alpha t s) = .ok tq) :
    ∀ a, applyOrders (heldOf s.broker) (rebalanceOrders tq (heldOf s.broker)) a = qtyOf tq a := by
  have hr : pcmCall (heldOf s.broker) (cfg.uni.assets t) (alpha t s.signals (cfg.uni.assets t))
      (sizerOf cfg (equityOf s.broker) (px t)) = .ok ⟨_, rebalanceOrders tq (heldOf s.broker)⟩ :=
    pcmCall_ok_iff.mpr ⟨tq, h, rfl⟩
  obtain ⟨target, hs, hall⟩ := C09_reach_exact (sizerOf_keys cfg _ _) hα hr
  obtain rfl : target = tq := Except.ok.inj (hs.symm.trans h)
  exact hall

/-- A rebalance outside exchange hours (a market close) of a session
whose broker represents `st` with nothing pending, returning normally.  Then the sizer returned some `target`; the
holdings are untouched and the pending orders are exactly `rebalanceOrders target held`; and for every later instant
`t'` inside exchange hours at which the held assets are quoted, if `broker.update t'` returns normally then afterwards
`heldOf` — a list with distinct keys and no zero quantity — gives every asset its target quantity (`0` for an asset the
target does not mention), the queue is empty again, and the broker is again represented with nothing pending. -/
theorem C09_session_reach_close (cfg : SessionCfg α) (alpha : Alpha α) (px : Px α)
    (hpos : ∀ t a p, px t a = some p → 0 < p) (s s1 : Session α) (st : RefState α) (t : Int)
    (hbr : BR cfg.fee s.broker st t) (hm : Marked px t s.broker) (hp : st.pending = [])
    (hclosed : isOpen t = false)
    (hα : ((alpha t s.signals (cfg.uni.assets t)).map (·.1)).Nodup)
    (hreb : rebalanceAt cfg alpha px t s = (s1, none)) :
    ∃ target, sizerOf cfg (equityOf s.broker) (px t) (recordedWeights cfg alpha t s) = .ok target ∧
      heldOf s1.broker = heldOf s.broker ∧
      pendingOf s1.broker = rebalanceOrders target (heldOf s.broker) ∧
      ∀ t' b2, t ≤ t' → isOpen t' = true → (∀ x ∈ heldOf s.broker, (px t' x.1).isSome) →
        s1.broker.update t' (quotesAt px t') = (b2, none) →
        (∀ a, qtyOf (heldOf b2) a = qtyOf target a) ∧
        ((heldOf b2).map (·.1)).Nodup ∧ (∀ x ∈ heldOf b2, x.2 ≠ 0) ∧
        pendingOf b2 = [] ∧ QueuesEmpty b2 ∧
        ∃ st', BR cfg.fee b2 st' t' ∧ Marked px t' b2 ∧ st'.pending = [] := by
  obtain ⟨tq, r, htq, hheld, hr, hbr1, _⟩ :=
    rebalanceAt_rep cfg alpha px hpos t s s1 st hbr hm (fun _ => hp) hreb
  -- outside exchange hours the orders join the (empty) queue
  rw [refExecute_closed _ _ _ _ hclosed, hp, List.nil_append] at hr
  cases hr
  refine ⟨tq, htq, ?_, ?_, ?_⟩
  · rw [heldOf_sim cfg.fee s1.broker _ t hbr1, hheld]
  · rw [pendingOf_sim cfg.fee s1.broker _ t hbr1, hheld]
  · intro t' b2 ht' ho hq hup
    obtain ⟨st', hbr2, hm2, hp2, hqty⟩ := update_reach cfg.fee px hpos s1.broker b2 _ t t' hbr1 ht' ho
      (by rw [← hheld]; exact hq) hup
    have hw2 := held_wf cfg.fee b2 st' t' hbr2
    refine ⟨fun a => ?_, hw2.1, hw2.2, by rw [pendingOf_sim cfg.fee b2 st' t' hbr2, hp2], queuesEmpty_of_rep cfg.fee b2 st' t' hbr2 hp2,
      st', hbr2, hm2, hp2⟩
    rw [hqty a]
    exact hheld ▸ reach_target cfg alpha px t s hα tq htq a

/-- A rebalance at an instant inside exchange hours (buy-and-hold started at
14:30) of a session whose broker represents `st` with nothing pending, returning normally: immediately after
`rebalanceAt`, `heldOf` gives every asset its target quantity, with distinct keys and no zero quantity, and the queue
is empty. -/
theorem C09_session_reach_open (cfg : SessionCfg α) (alpha : Alpha α) (px : Px α)
    (hpos : ∀ t a p, px t a = some p → 0 < p) (s s1 : Session α) (st : RefState α) (t : Int)
    (hbr : BR cfg.fee s.broker st t) (hm : Marked px t s.broker) (hp : st.pending = [])
    (hopen : isOpen t = true)
    (hα : ((alpha t s.signals (cfg.uni.assets t)).map (·.1)).Nodup)
    (hreb : rebalanceAt cfg alpha px t s = (s1, none)) :
    ∃ target, sizerOf cfg (equityOf s.broker) (px t) (recordedWeights cfg alpha t s) = .ok target ∧
      (∀ a, qtyOf (heldOf s1.broker) a = qtyOf target a) ∧
      ((heldOf s1.broker).map (·.1)).Nodup ∧ (∀ x ∈ heldOf s1.broker, x.2 ≠ 0) ∧
      pendingOf s1.broker = [] ∧ QueuesEmpty s1.broker ∧
      ∃ st', BR cfg.fee s1.broker st' t ∧ Marked px t s1.broker ∧ st'.pending = [] := by
  obtain ⟨tq, r, htq, hheld, hr, hbr1, hm1⟩ :=
    rebalanceAt_rep cfg alpha px hpos t s s1 st hbr hm (fun _ => hp) hreb
  -- inside exchange hours the orders fill at once
  rw [refExecute_open _ _ _ _ hopen] at hr
  have hp1 : r.pending = [] := (refFillAll_frame hr).1.trans hp
  have hw1 := held_wf cfg.fee s1.broker r t hbr1
  refine ⟨tq, htq, fun a => ?_, hw1.1, hw1.2, by rw [pendingOf_sim cfg.fee s1.broker r t hbr1, hp1], queuesEmpty_of_rep cfg.fee _ r t hbr1 hp1,
    r, hbr1, hm1, hp1⟩
  rw [qtyOf, heldOf_sim cfg.fee s1.broker r t hbr1, refFillAll_qty cfg.fee px t _ st r hr a]
  exact hheld ▸ reach_target cfg alpha px t s hα tq htq a

/-- A session constructed by `Session.init` (any alpha model, any universe, with or
without signals) run without error over events `pre ++ [evc, evo]` in time order, where `evc` is a rebalance instant
outside exchange hours (a market close), `evo` is inside exchange hours and not a rebalance instant (the next market
open), and the event before `evc` (if any) was inside exchange hours (so nothing is pending at `evc`).  Then the
holdings after `evo` are exactly the target the sizer produced at `evc`: quantity `target a` for every asset, distinct
keys, no zero quantity, and the queue is empty.  The target is the sizer's output on the weight vector recorded at
`evc` (the last allocation record), from the equity of the state after `evc`'s broker update and signals stage.
Nothing is assumed about earlier rebalances, so this holds for each rebalance of a run in turn.

`A` is any set of assets containing every universe member and every key the alpha model can produce; its members
must be quoted at every event (as in `C08_refines`). -/
theorem C09_session_reach_run (cfg : SessionCfg α) (alpha : Alpha α) (px : Px α)
    (hpos : ∀ t a p, px t a = some p → 0 < p) (A : String → Prop)
    (hA : ∀ t a, a ∈ cfg.uni.assets t → A a)
    (hAw : ∀ t sg u, ∀ a ∈ (alpha t sg u).map (·.1), A a)
    (hα : ∀ t sg u, ((alpha t sg u).map (·.1)).Nodup)
    (s0 : Session α) (events : List SimEvent) (sched : List Int)
    (hinit : Session.init cfg = .ok (s0, events, sched))
    (pre : List SimEvent) (evc evo : SimEvent)
    (hsorted : ((pre ++ [evc, evo]).map (·.time)).Pairwise (· ≤ ·))
    (hstart : ∀ ev ∈ pre ++ [evc, evo], cfg.start ≤ ev.time)
    (hq : ∀ ev ∈ pre ++ [evc, evo], ∀ a, A a → (px ev.time a).isSome)
    (hpre : ∀ ev, pre.getLast? = some ev → isOpen ev.time = true)
    (hc : isOpen evc.time = false) (hrebc : isReb cfg sched evc.time = true)
    (ho : isOpen evo.time = true) (hrebo : isReb cfg sched evo.time = false)
    (s' : Session α) (hrun : Session.runEvents cfg alpha px sched s0 (pre ++ [evc, evo]) = (s', none)) :
    ∃ sm b smid target,
      Session.runEvents cfg alpha px sched s0 pre = (sm, none) ∧
      sm.broker.update evc.time (quotesAt px evc.time) = (b, none) ∧
      sigStage cfg px evc { sm with broker := b } = (smid, none) ∧
      sizerOf cfg (equityOf smid.broker) (px evc.time) (recordedWeights cfg alpha evc.time smid) = .ok target ∧
      s'.allocations.getLast? = some (evc.time, recordedWeights cfg alpha evc.time smid) ∧
      (∀ a, qtyOf (heldOf s'.broker) a = qtyOf target a) ∧
      ((heldOf s'.broker).map (·.1)).Nodup ∧ (∀ x ∈ heldOf s'.broker, x.2 ≠ 0) ∧
      pendingOf s'.broker = [] ∧ QueuesEmpty s'.broker := by
  -- split the run
  obtain ⟨sm, hpre_run, hrun⟩ := runEvents_append_ok.1 hrun
  obtain ⟨s1, hstc, hrun⟩ := runEvents_cons_ok.1 hrun
  obtain ⟨s2, hsto, hrun⟩ := runEvents_cons_ok.1 hrun
  cases runEvents_nil_ok.1 hrun
  have hmc : evc ∈ pre ++ [evc, evo] := List.mem_append_right _ List.mem_cons_self
  have hmo : evo ∈ pre ++ [evc, evo] := List.mem_append_right _ (List.mem_cons_of_mem _ List.mem_cons_self)
  -- the state before `evc` is represented, nothing pending
  rw [List.map_append, List.pairwise_append] at hsorted
  obtain ⟨hs_pre, hce, hcross⟩ := hsorted
  have hco : evc.time ≤ evo.time := (List.pairwise_cons.1 hce).1 _ List.mem_cons_self
  obtain ⟨stm, tm, htm, hbrm, hasm, hpend⟩ := run_rep cfg alpha px hpos sched A hA hAw evc.time pre s0 sm
    { cash := cfg.initialCash } cfg.start (init_rep cfg s0 events sched hinit)
    ⟨fun _ hk => (nomatch hk), fun _ hk => (nomatch hk)⟩ (hstart evc hmc) (fun _ => rfl) (fun _ => rfl) hs_pre
    (fun ev he => ⟨hstart ev (List.mem_append_left _ he),
      hcross ev.time (List.mem_map_of_mem he) evc.time List.mem_cons_self⟩)
    (fun ev he => hq ev (List.mem_append_left _ he)) hpre hpre_run
  -- the close event
  obtain ⟨b, smid, s3, hu, hsg, hbmid, _, hreb, hb1, hal1⟩ :=
    step_ok_reb hrebc hstc
  have hquoted : ∀ t, (∀ a, A a → (px t a).isSome) → ∀ x ∈ stm.hold, (px t x.1).isSome :=
    fun t h x hx => h _ (hasm.1 _ (List.mem_map.mpr ⟨x, hx, rfl⟩))
  have hbrmb := update_rep_closed cfg.fee px hpos sm.broker b stm tm evc.time hbrm htm hc hu
  have hbrb := hbrmb.1
  have hmb := hbrmb.marked (hquoted evc.time (hq evc hmc))
  rw [← hbmid] at hbrb hmb
  obtain ⟨target, htgt, _, _, hnext⟩ := C09_session_reach_close cfg alpha px hpos smid s3 stm evc.time hbrb hmb
    hpend hc (hα _ _ _) hreb
  -- the open event
  obtain ⟨hupo, halo⟩ := step_ok_noReb hrebo hsto
  rw [hb1] at hupo
  have hheldmid : heldOf smid.broker = stm.hold := heldOf_sim cfg.fee smid.broker stm evc.time hbrb
  obtain ⟨h1, h2, h3, h4, h5, _⟩ := hnext evo.time s'.broker hco ho
    (by rw [hheldmid]; exact hquoted evo.time (hq evo hmo)) hupo
  refine ⟨sm, b, smid, target, hpre_run, hu, hsg, htgt, ?_, h1, h2, h3, h4, h5⟩
  have hal3 := (rebalanceAt_frame cfg alpha px evc.time smid).2.1
  rw [hreb] at hal3
  rw [halo, hal1, hal3, List.getLast?_append_of_ne_nil _ (by simp), List.getLast?_singleton]

end

/-! ## Non-vacuity at `α := ℚ` (`fieldNumOps ℚ`)

The session of the C08 example: Monday 2021-01-04 00:00 … Wednesday 2021-01-06 00:00, universe `["A"]`, weight `A ↦ 1`,
weekly rebalance on Tuesday, long-only without cash buffer, no fees, cash 1000; `A` trades at 9 at every open and at 10
otherwise.  `pre` = Monday's open and close and Tuesday's open, `evc` = Tuesday's close (sizes `⌊1000 / 10⌋ = 100`),
`evo` = Wednesday's open (the 100 shares fill). -/

section nonvacuity

noncomputable local instance (priority := high) ratOps09s : NumOps ℚ := fieldNumOps ℚ
local instance (priority := high) ratLawful09s : LawfulNumOps ℚ := fieldNumOps_lawful ℚ

def exPx09s : Px ℚ := fun t a => if a = "A" then (if t % 86400 = 52200 then some 9 else some 10) else none

noncomputable def exCfg09s : SessionCfg ℚ :=
  { start := 18631 * 86400, end_ := 18633 * 86400, rebalance := .weekly "TUE", longOnly := true, param := 0,
    fee := .zero, initialCash := 1000, uni := .static ["A"], nan := 0 }

def exAlpha09s : Alpha ℚ := fixedAlpha [("A", 1)]

def exPre09s : List SimEvent :=
  [⟨18631 * 86400 + 52200, .marketOpen⟩, ⟨18631 * 86400 + 75600, .marketClose⟩, ⟨18632 * 86400 + 52200, .marketOpen⟩]
def exEvc09s : SimEvent := ⟨18632 * 86400 + 75600, .marketClose⟩
def exEvo09s : SimEvent := ⟨18633 * 86400 + 52200, .marketOpen⟩
def exSched09s : List Int := [18632 * 86400 + 75600]

theorem exInit09s : ∃ s0 events, Session.init exCfg09s = .ok (s0, events, exSched09s) := by
  obtain ⟨⟨s0, evs, sc⟩, hi, hp⟩ := ok_of_test (x := Session.init exCfg09s) (fun r => decide (r.2.2 = exSched09s))
    (by decide +kernel)
  exact ⟨s0, evs, of_decide_eq_true hp ▸ hi⟩

noncomputable def exAfter09s : Option (Session ℚ × Option (Int × Err)) :=
  (Session.init exCfg09s).toOption.map fun r =>
    Session.runEvents exCfg09s exAlpha09s exPx09s r.2.2 r.1 (exPre09s ++ [exEvc09s, exEvo09s])

theorem exRun09s_ok : exAfter09s.map (fun r => r.2.isNone) = some true := by decide +kernel
theorem exRun09s_held : exAfter09s.map (fun r => heldOf r.1.broker) = some [("A", 100)] := by decide +kernel

theorem exPx09s_pos : ∀ t a p, exPx09s t a = some p → 0 < p := by
  intro t a p h
  unfold exPx09s at h
  split at h
  · split at h <;> (cases h; norm_num)
  · cases h

/-- every hypothesis of `C09_session_reach_run` holds on the example; its conclusion is about the holdings
`[("A", 100)]` (kernel evaluation), i.e. the target `A ↦ 100` sized on Tuesday's close has been reached on Wednesday's
open -/
example : ∃ s0 events s' target, Session.init exCfg09s = .ok (s0, events, exSched09s) ∧
    Session.runEvents exCfg09s exAlpha09s exPx09s exSched09s s0 (exPre09s ++ [exEvc09s, exEvo09s]) = (s', none) ∧
    heldOf s'.broker = [("A", 100)] ∧ (∀ a, qtyOf (heldOf s'.broker) a = qtyOf target a) ∧
    qtyOf target "A" = 100 ∧ pendingOf s'.broker = [] := by
  obtain ⟨s0, events, h0⟩ := exInit09s
  have hok := exRun09s_ok
  have hheld := exRun09s_held
  simp only [exAfter09s, h0, Except.toOption, Option.map_some, Option.some.injEq,
    Option.isNone_iff_eq_none] at hok hheld
  have hrun : Session.runEvents exCfg09s exAlpha09s exPx09s exSched09s s0 (exPre09s ++ [exEvc09s, exEvo09s]) =
      ((Session.runEvents exCfg09s exAlpha09s exPx09s exSched09s s0 (exPre09s ++ [exEvc09s, exEvo09s])).1, none) :=
    Prod.ext rfl hok
  obtain ⟨_, _, _, target, _, _, _, _, _, hq, _, _, hp, _⟩ :=
    C09_session_reach_run exCfg09s exAlpha09s exPx09s exPx09s_pos (fun a => a = "A")
      (by intro t a ha; simpa [exCfg09s, UniverseSpec.assets, staticAssets] using ha)
      (by intro t sg u a ha; simpa [exAlpha09s, fixedAlpha] using ha)
      (by intro t sg u; simp [exAlpha09s, fixedAlpha])
      s0 events exSched09s h0 exPre09s exEvc09s exEvo09s (by decide) (by decide)
      (by rintro ev - a rfl; unfold exPx09s; rw [if_pos rfl]; split <;> rfl)
      (by intro ev hev; simp only [exPre09s, List.getLast?_cons_cons, List.getLast?_singleton,
            Option.some.injEq] at hev; subst hev; decide)
      (by decide) (by decide) (by decide) (by decide) _ hrun
  refine ⟨s0, events, _, target, h0, hrun, hheld, hq, ?_, hp⟩
  rw [← hq "A", hheld]
  rfl

/-- the rebalance-at-the-open branch: Monday 14:30, buy-and-hold; sized from the open price 9 (`⌊1000 / 9⌋ = 111`)
and filled at once.  The constructed session is represented (`Lift.init_rep`), holds nothing, and is at its own start
instant, which is inside exchange hours: all hypotheses of `C09_session_reach_open` hold. -/
noncomputable def exCfg09b : SessionCfg ℚ :=
  { exCfg09s with start := 18631 * 86400 + 52200, end_ := 18632 * 86400 + 52200, rebalance := .buyAndHold }

theorem exInit09b : ∃ s0 events sched, Session.init exCfg09b = .ok (s0, events, sched) := by
  obtain ⟨⟨s0, evs, sc⟩, hi, -⟩ := ok_of_test (x := Session.init exCfg09b) (fun _ => true) (by decide +kernel)
  exact ⟨s0, evs, sc, hi⟩

theorem exReb09b_ok : (Session.init exCfg09b).toOption.map
    (fun r => (rebalanceAt exCfg09b exAlpha09s exPx09s exCfg09b.start r.1).2.isNone) = some true := by
  decide +kernel
theorem exReb09b_held : (Session.init exCfg09b).toOption.map
    (fun r => heldOf (rebalanceAt exCfg09b exAlpha09s exPx09s exCfg09b.start r.1).1.broker) = some [("A", 111)] := by
  decide +kernel

example : ∃ s0 s1 target, rebalanceAt exCfg09b exAlpha09s exPx09s exCfg09b.start s0 = (s1, none) ∧
    heldOf s1.broker = [("A", 111)] ∧ (∀ a, qtyOf (heldOf s1.broker) a = qtyOf target a) ∧
    pendingOf s1.broker = [] := by
  obtain ⟨s0, events, sched, h0⟩ := exInit09b
  have hok := exReb09b_ok
  have hheld := exReb09b_held
  simp only [h0, Except.toOption, Option.map_some, Option.some.injEq, Option.isNone_iff_eq_none] at hok hheld
  have hreb : rebalanceAt exCfg09b exAlpha09s exPx09s exCfg09b.start s0 =
      ((rebalanceAt exCfg09b exAlpha09s exPx09s exCfg09b.start s0).1, none) := Prod.ext rfl hok
  have hbr := init_rep exCfg09b s0 events sched h0
  have hm : Marked exPx09s exCfg09b.start s0.broker := by
    intro e he p hp
    rw [((init_fresh h0).1 e he).1] at hp
    cases hp
  obtain ⟨target, _, hq, _, _, hp, _⟩ := C09_session_reach_open exCfg09b exAlpha09s exPx09s exPx09s_pos s0 _ _ _
    hbr hm rfl (by decide) (by simp [exAlpha09s, fixedAlpha]) hreb
  exact ⟨s0, _, target, hreb, hheld, hq, hp⟩

end nonvacuity

end Qs
