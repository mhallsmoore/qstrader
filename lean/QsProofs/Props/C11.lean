import QsProofs.Lemmas.Sizer
import Mathlib.Data.Rat.Floor
import Mathlib.Tactic.NormNum

/-!
# C11 — Long/short sizing respects gross leverage and the sign of every weight

For any signed weights, positive prices, positive equity, leverage L > 0 and fee rate f, each target
quantity is a whole number carrying the sign of its weight (or zero), obtained by truncation toward zero,
and is the largest such number affordable within the asset's leverage-scaled allocation to within one
currency unit; the sum of |quantity| × price never exceeds L × equity × (1 + f).  A non-positive leverage
or an unavailable price is rejected with an error.

All theorems are about `Qs.lsSize`, `Qs.lsCheckLeverage` of `QsModel/Sizer.lean`.

Notation: `G = Σ |wᵢ|` is `(w.map fun x => |x.2|).sum`; the allocation of asset `a` with weight `wa` is
`A = E * wa * (L / G)`; the after-cost dollars are `D = A − f·|A|` with `f = feeRate fee` (`c + τ` for
`FeeModel.percent c τ`, `0` for `FeeModel.zero`; `totalCost_eq : fee.totalCost x = feeRate fee * |x|`);
`FeeNonneg fee` says both rates are `≥ 0`.  `Num.truncI` is Python's `int()` (truncation toward zero).
A NaN price is `price a = none`.

Hypotheses forced by the proofs (known findings about the real code):
* `tiny < G` (`np.isclose(G, 0)` is false) in all three main theorems.  With `0 < G ≤ tiny` the weights are
  used unscaled: `C11_gross_fails_tiny_sum`.
* `feeRate fee ≤ 1` in `C11_sign` only.  With a total fee rate above 100 % a positive weight gets a negative
  quantity: `C11_sign_fails_fee_gt_one`.

`C11_afford` needs no sign condition on `E`, `L` or the fee rates; `C11_gross` needs no upper bound on the
fee rate.  The bound `L * E * (1 + f)` of `C11_gross` cannot be improved to `L * E`: for a short position
`|D| = (1 + f)·|A|` (the fee estimate is *added* to the short dollars), see `exGross_exceeds_LE`.
-/

set_option linter.unusedSectionVars false

namespace Qs
open NumOps Num

section
variable {α : Type} [Field α] [LinearOrder α] [IsStrictOrderedRing α] [FloorRing α] [NumOps α] [LawfulNumOps α]

/-- C11 (sign): every target quantity is the double truncation toward zero of the after-cost dollars over
the price, and carries the sign of its weight (or is zero). -/
theorem C11_sign (fee : FeeModel α) (E L : α) (price : String → Option α) (w : Weights α) (q : Quantities)
    (hnd : (w.map (·.1)).Nodup)
    (hp : ∀ a p, price a = some p → 0 < p) (hE : 0 < E) (hL : 0 < L)
    (hfee : FeeNonneg fee) (hf1 : feeRate fee ≤ 1) (hG : tiny < (w.map fun x => |x.2|).sum)
    (hq : lsSize fee E L price w = .ok q) :
    ∀ a qa, (a, qa) ∈ q → ∀ wa pa, (a, wa) ∈ w → price a = some pa →
      let A := E * wa * (L / (w.map fun x => |x.2|).sum)
      let D := A - feeRate fee * |A|
      qa = truncI (((truncI D : Int) : α) / pa) ∧
      (qa = 0 ∨ (0 < qa ↔ 0 < wa)) ∧ (0 ≤ wa → 0 ≤ qa) ∧ (wa ≤ 0 → qa ≤ 0) := by
  intro a qa hm wa pa hwa hpa
  obtain ⟨-, rfl⟩ := lsSize_ok_iff.mp hq
  have hqa : qa = lsQuantity fee E (wa * (L / (w.map fun x => |x.2|).sum)) pa := by
    rw [sized_val hnd hm hwa hpa, normScale_of_tiny_lt hG]
  have hr : 0 < L / (w.map fun x => |x.2|).sum := div_pos hL (tiny_nonneg.trans_lt hG)
  obtain ⟨s1, s2⟩ := lsQuantity_sign fee E (wa * (L / (w.map fun x => |x.2|).sum)) pa (hp _ _ hpa)
    (feeRate_nonneg hfee) hf1
  rw [← hqa] at s1 s2
  have hpos : 0 ≤ wa → 0 ≤ qa := fun h => s1 (mul_nonneg hE.le (mul_nonneg h hr.le))
  have hneg : wa ≤ 0 → qa ≤ 0 := fun h =>
    s2 (mul_nonpos_of_nonneg_of_nonpos hE.le (mul_nonpos_of_nonpos_of_nonneg h hr.le))
  refine ⟨by rw [hqa, lsQuantity_eq, mul_assoc], ?_, hpos, hneg⟩
  by_cases hz : qa = 0
  · exact Or.inl hz
  · refine Or.inr ⟨fun hq => ?_, fun hw => ?_⟩
    · by_contra hw; have := hneg (not_lt.mp hw); omega
    · have := hpos hw.le; omega

/-- C11 (afford): the quantity is the largest affordable within the after-cost dollars to within one
currency unit: `|q|·p ≤ |D|` and `|D| − 1 < (|q| + 1)·p`. -/
theorem C11_afford (fee : FeeModel α) (E L : α) (price : String → Option α) (w : Weights α) (q : Quantities)
    (hnd : (w.map (·.1)).Nodup)
    (hp : ∀ a p, price a = some p → 0 < p)
    (hG : tiny < (w.map fun x => |x.2|).sum)
    (hq : lsSize fee E L price w = .ok q) :
    ∀ a qa, (a, qa) ∈ q → ∀ wa pa, (a, wa) ∈ w → price a = some pa →
      let A := E * wa * (L / (w.map fun x => |x.2|).sum)
      let D := A - feeRate fee * |A|
      |(qa : α)| * pa ≤ |D| ∧ |D| - 1 < (|(qa : α)| + 1) * pa := by
  intro a qa hm wa pa hwa hpa
  obtain ⟨-, rfl⟩ := lsSize_ok_iff.mp hq
  rw [sized_val hnd hm hwa hpa, normScale_of_tiny_lt hG, mul_assoc]
  exact lsQuantity_afford fee E _ pa (hp _ _ hpa)

/-- C11 (gross): the gross value of the target at the sizing prices is at most `L × equity × (1 + f)`. -/
theorem C11_gross (fee : FeeModel α) (E L : α) (price : String → Option α) (w : Weights α) (q : Quantities)
    (hp : ∀ a p, price a = some p → 0 < p) (hE : 0 < E) (hL : 0 < L)
    (hfee : FeeNonneg fee) (hG : tiny < (w.map fun x => |x.2|).sum)
    (hq : lsSize fee E L price w = .ok q) :
    (q.map fun x => |(x.2 : α)| * (price x.1).getD 0).sum ≤ L * E * (1 + feeRate fee) := by
  have h := lsSize_gross fee E L price w q hp hfee hG hq
  rwa [abs_of_pos hL, abs_of_pos hE] at h

/-! ## Rejections and degenerate inputs -/

/-- C11 (reject, leverage): a non-positive gross leverage is a `ValueError`, a positive one is accepted. -/
theorem C11_reject_leverage (L : α) :
    (L ≤ 0 → lsCheckLeverage L = .error .value) ∧ (0 < L → lsCheckLeverage L = .ok L) := by
  unfold lsCheckLeverage
  simp only [le_eq, zero_eq, decide_eq_true_eq]
  exact ⟨fun h => by rw [if_pos h], fun h => by rw [if_neg (not_le.mpr h)]⟩

/-- C11 (reject, NaN price): a key without a price is a `ValueError`. -/
theorem C11_reject_price (fee : FeeModel α) (E L : α) (price : String → Option α) (w : Weights α)
    (hmiss : ∃ x ∈ w, price x.1 = none) : lsSize fee E L price w = .error .value := by
  obtain ⟨x, hx, h⟩ := hmiss
  rw [lsSize_eq, if_neg fun hh => by have := hh x hx; rw [h] at this; cases this]

theorem C11_empty (fee : FeeModel α) (E L : α) (price : String → Option α) :
    lsSize fee E L price [] = .ok [] := rfl

/-- C11 (zero): all-zero weights (every key priced) give an all-zero target.  (`G = 0` is `isclose` to zero,
the weights are used as they are, `int(int(0) / p) = 0`.)  The positive-price hypothesis is the domain of
the real code (`0.0 / 0.0` is NaN there); the model's field arithmetic does not need it. -/
theorem C11_zero (fee : FeeModel α) (E L : α) (price : String → Option α) (w : Weights α)
    (h0 : ∀ x ∈ w, x.2 = 0) (hpr : ∀ x ∈ w, ∃ p, price x.1 = some p)
    (_hp : ∀ a p, price a = some p → 0 < p) :
    ∃ q, lsSize fee E L price w = .ok q ∧ (∀ x ∈ q, x.2 = 0) ∧ q.length = w.length :=
  ⟨_, lsSize_ok_iff.mpr ⟨fun x hx => Option.isSome_iff_exists.mpr (hpr x hx), rfl⟩,
    sized_eq_zero (normScale_zero _ (f := fun x => x * _) (zero_mul _)) (lsQuantity_zero fee _) h0, length_sized⟩

/-- C11 (reject): all rejection / degenerate clauses together. -/
theorem C11_reject (fee : FeeModel α) (E L : α) (price : String → Option α) (w : Weights α) :
    (L ≤ 0 → lsCheckLeverage L = .error .value) ∧ (0 < L → lsCheckLeverage L = .ok L) ∧
    ((∃ x ∈ w, price x.1 = none) → lsSize fee E L price w = .error .value) ∧
    lsSize fee E L price [] = .ok [] ∧
    ((∀ x ∈ w, x.2 = 0) → (∀ x ∈ w, ∃ p, price x.1 = some p) → (∀ a p, price a = some p → 0 < p) →
      ∃ q, lsSize fee E L price w = .ok q ∧ (∀ x ∈ q, x.2 = 0) ∧ q.length = w.length) :=
  ⟨(C11_reject_leverage L).1, (C11_reject_leverage L).2, C11_reject_price fee E L price w,
   C11_empty fee E L price, C11_zero fee E L price w⟩

/-- C11 (keys): a successful call returns exactly the input's keys, in ascending order, one entry per
input entry, and every key has a price.  With pairwise-distinct input keys the order is strictly
ascending. -/
theorem C11_keys (fee : FeeModel α) (E L : α) (price : String → Option α) (w : Weights α) (q : Quantities)
    (hq : lsSize fee E L price w = .ok q) :
    (q.map (·.1)).Perm (w.map (·.1)) ∧ (q.map (·.1)).Pairwise (· ≤ ·) ∧ q.length = w.length ∧
    ((w.map (·.1)).Nodup → (q.map (·.1)).Pairwise (· < ·)) ∧
    (∀ x ∈ w, ∃ p, price x.1 = some p) := by
  obtain ⟨hpr, rfl⟩ := lsSize_ok_iff.mp hq
  rw [sized_keys]
  exact ⟨sortByKey_keys_perm w, sortByKey_keys_sorted w, length_sized, sortByKey_keys_pairwise_lt,
    fun x hx => Option.isSome_iff_exists.mp (hpr x hx)⟩

end
/-! ## Non-vacuity and negative witnesses at `ℚ` -/

section Examples

noncomputable local instance instNumOpsQ11 : NumOps ℚ := fieldNumOps ℚ
local instance instLawfulQ11 : LawfulNumOps ℚ := fieldNumOps_lawful ℚ

/-- one long, one short (three times the size), given out of key order -/
def exW11 : Weights ℚ := [("B", -3), ("A", 1)]
def exPrice11 : String → Option ℚ := fun a =>
  if a = "A" then some 17 else if a = "B" then some (123 / 10) else none
/-- 0.1 % commission, 0.05 % tax -/
def exFee11 : FeeModel ℚ := .percent (1 / 1000) (1 / 2000)

theorem exPrice11_pos : ∀ a p, exPrice11 a = some p → 0 < p := by
  intro a p h
  unfold exPrice11 at h
  split at h
  · cases h; norm_num
  · split at h
    · cases h; norm_num
    · cases h

theorem exW11_sum : (exW11.map fun x => |x.2|).sum = 4 := by decide +kernel
theorem exW11_tiny : (NumOps.tiny : ℚ) < (exW11.map fun x => |x.2|).sum := by decide +kernel
theorem exW11_nodup : (exW11.map (·.1)).Nodup := by decide +kernel
theorem exFee11_le : feeRate exFee11 ≤ 1 := by decide +kernel
theorem exFee11_nonneg : FeeNonneg exFee11 := by simp [exFee11]

/-- The call computed: equity 100 001, leverage 2, `L / G = 1/2`.
`A`: allocation 50 000.5, after costs 49 925.49925 → 49 925 dollars → `int(49925 / 17) = 2936`.
`B`: allocation −150 001.5, after costs −150 226.50225 → −150 226 dollars → `int(−150226 / 12.3) = −12213`. -/
theorem exOut11 : lsSize exFee11 100001 2 exPrice11 exW11 = .ok [("A", 2936), ("B", -12213)] := by
  have hA : exPrice11 "A" = some 17 := by simp [exPrice11]
  have hB : exPrice11 "B" = some (123 / 10) := by simp [exPrice11]
  rw [lsSize_eq, if_pos (by simp [exW11, hA, hB]), sized,
    sortByKey_eq_of_perm_sorted (l' := [("A", 1), ("B", -3)]) (by decide +kernel) (by decide +kernel)]
  simp only [exW11_sum, normScale_of_tiny_lt (exW11_sum ▸ exW11_tiny), List.map_cons, List.map_nil, hA, hB,
    Option.getD_some, exFee11]
  rw [lsQuantity_eq_of (d := 49925) (z := 2936) ((truncI_eq_iff _ _).mpr (by decide +kernel))
      ((truncI_eq_iff _ _).mpr (by decide +kernel)),
    lsQuantity_eq_of (d := -150226) (z := -12213) ((truncI_eq_iff _ _).mpr (by decide +kernel))
      ((truncI_eq_iff _ _).mpr (by decide +kernel))]

/-- non-vacuity of `C11_sign`, `C11_afford`, `C11_keys`: all hypotheses hold on the example -/
example := C11_sign exFee11 100001 2 exPrice11 exW11 _ exW11_nodup exPrice11_pos
  (by decide +kernel) (by decide +kernel) exFee11_nonneg exFee11_le exW11_tiny exOut11
example := C11_afford exFee11 100001 2 exPrice11 exW11 _ exW11_nodup exPrice11_pos exW11_tiny exOut11
example := C11_keys exFee11 100001 2 exPrice11 exW11 _ exOut11

/-- the gross value of the example target: `2936 · 17 + 12213 · 12.3 = 200 131.9` -/
theorem exGross : (([("A", 2936), ("B", -12213)] : Quantities).map
    fun x => |(x.2 : ℚ)| * (exPrice11 x.1).getD 0).sum = 2001319 / 10 := by
  decide +kernel

/-- non-vacuity of `C11_gross`, and the bound it gives: `200 131.9 ≤ 2 · 100 001 · 1.0015` -/
example : (2001319 / 10 : ℚ) ≤ 2 * 100001 * (1 + feeRate exFee11) := by
  have h := C11_gross exFee11 100001 2 exPrice11 exW11 _ exPrice11_pos
    (by decide +kernel) (by decide +kernel) exFee11_nonneg exW11_tiny exOut11
  rwa [exGross] at h

/-- the bound of `C11_gross` cannot be tightened to `L × equity`: here the gross value `200 131.9` exceeds
`2 · 100 001 = 200 002` (the fee estimate is added to the short dollars). -/
theorem exGross_exceeds_LE : (2 : ℚ) * 100001 <
    (([("A", 2936), ("B", -12213)] : Quantities).map fun x => |(x.2 : ℚ)| * (exPrice11 x.1).getD 0).sum := by
  rw [exGross]; decide +kernel

/-- non-vacuity of `C11_zero` and of the price rejection -/
example : ∃ q, lsSize exFee11 100001 2 exPrice11 [("B", 0), ("A", 0)] = .ok q ∧
    (∀ x ∈ q, x.2 = 0) ∧ q.length = 2 :=
  C11_zero exFee11 100001 2 exPrice11 [("B", 0), ("A", 0)] (by simp) (by simp [exPrice11]) exPrice11_pos
example : lsSize exFee11 100001 2 exPrice11 [("B", -3), ("Z", 1)] = .error .value :=
  C11_reject_price _ _ _ _ _ ⟨("Z", 1), by simp, by simp [exPrice11]⟩

/-- **Negative witness (fee rate above 100 %).**  Commission 80 % + tax 80 %, equity 1 000 000, leverage 1,
one asset of weight `+1` at price 1: the target quantity is `-600 000` — a positive weight gets a short
target.  Hence `feeRate fee ≤ 1` cannot be dropped from `C11_sign`. -/
theorem C11_sign_fails_fee_gt_one :
    lsSize (FeeModel.percent (4 / 5 : ℚ) (4 / 5)) 1000000 1 (fun _ => some 1) [("A", 1)] =
      .ok [("A", -600000)] := by
  rw [lsSize_eq, if_pos (by simp), sized_singleton, Option.getD_some,
    normScale_of_tiny_lt (by decide +kernel),
    lsQuantity_eq_of (d := -600000) (z := -600000) ((truncI_eq_iff _ _).mpr (by decide +kernel))
      ((truncI_eq_iff _ _).mpr (by decide +kernel))]

/-- **Negative witness (`0 < G ≤ 1e-8`).**  One asset of weight `1e-9`, equity `10¹²`, leverage `1e-10`, no
fees, price 1: `np.isclose(G, 0)` holds, the weight is used unscaled, the target is `1000` shares worth
`1000`, whereas `L × equity × (1 + f) = 100`.  Hence `tiny < G` cannot be dropped from `C11_gross`. -/
theorem C11_gross_fails_tiny_sum :
    lsSize (FeeModel.zero : FeeModel ℚ) 1000000000000 (1 / 10000000000) (fun _ => some 1)
      [("A", 1 / 1000000000)] = .ok [("A", 1000)] ∧
    ¬ (|((1000 : Int) : ℚ)| * 1 ≤
      (1 / 10000000000 : ℚ) * 1000000000000 * (1 + feeRate (FeeModel.zero : FeeModel ℚ))) := by
  refine ⟨?_, by decide +kernel⟩
  rw [lsSize_eq, if_pos (by simp), sized_singleton, Option.getD_some,
    normScale_of_le_tiny (by decide +kernel),
    lsQuantity_eq_of (d := 1000) (z := 1000) ((truncI_eq_iff _ _).mpr (by decide +kernel))
      ((truncI_eq_iff _ _).mpr (by decide +kernel))]

end Examples

end Qs
