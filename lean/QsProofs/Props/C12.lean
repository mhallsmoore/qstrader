import QsProofs.Lemmas.Calendar

/-!
# C12 — The simulation clock is strictly increasing and covers exactly business days

For any `start ≤ end` whose end time-of-day is not before the start's, `Qs.simEvents start end pre post`
emits, for each Monday–Friday date `d` with `dayOf start ≤ d ≤ dayOf end` and for no other date, the day
template: market open at 14:30 (`d*86400 + 52200`) then market close at 21:00 (`d*86400 + 75600`), preceded by
the 00:00 pre-market event / followed by the 23:59 post-market event iff enabled; all event times are strictly
increasing.  `end < start` is rejected with `Err.value`.

Without the time-of-day precondition (`C12_events_general`) the last date is `hiOf start end = (end - todOf start) / 86400`:
pandas drops the end date when its stamp `date + todOf start` exceeds `end`.  The statements about an accepted clock are
readings of `Cal.simEvents_ok_iff`, `Cal.mem_bdayRange`, `Cal.mem_simEvents` (`Lemmas/Calendar.lean`).
-/

namespace Qs.C12
open Qs.Cal

theorem C12_bdayRange (start end_ : Int) (htod : todOf start ≤ todOf end_) :
    bdayRange start end_ =
      (daysFrom (dayOf start) (dayOf end_ + 1 - dayOf start).toNat).filter isBDay := by
  rw [bdayRange_eq, hiOf_eq start end_ htod]

theorem C12_mem_bdayRange (start end_ d : Int) (htod : todOf start ≤ todOf end_) :
    d ∈ bdayRange start end_ ↔ dayOf start ≤ d ∧ d ≤ dayOf end_ ∧ weekday d ≤ 4 := by
  rw [mem_bdayRange, hiOf_eq start end_ htod, isBDay_iff]

/-- the clock emits exactly the template of each Monday–Friday date of the range, in date order -/
theorem C12_events (start end_ : Int) (pre post : Bool) (hle : start ≤ end_) (htod : todOf start ≤ todOf end_) :
    simEvents start end_ pre post =
      .ok (((daysFrom (dayOf start) (dayOf end_ + 1 - dayOf start).toNat).filter isBDay).flatMap
        (dayTemplate pre post)) := by
  rw [simEvents_ok_iff.2 ⟨hle, rfl⟩, C12_bdayRange start end_ htod]

/-- without the time-of-day precondition the last date is `hiOf start end` (`= dayOf end` or `dayOf end - 1`) -/
theorem C12_events_general (start end_ : Int) (pre post : Bool) (hle : start ≤ end_) :
    simEvents start end_ pre post =
      .ok (((daysFrom (dayOf start) (hiOf start end_ + 1 - dayOf start).toNat).filter isBDay).flatMap
        (dayTemplate pre post)) := by
  rw [simEvents_ok_iff.2 ⟨hle, rfl⟩, bdayRange_eq]

/-- the events of the clock are exactly the events of the templates of the Monday–Friday dates of the range -/
theorem C12_mem_events (start end_ : Int) (pre post : Bool) (hle : start ≤ end_)
    (htod : todOf start ≤ todOf end_) :
    ∃ evs, simEvents start end_ pre post = .ok evs ∧
      ∀ e, e ∈ evs ↔ ∃ d, dayOf start ≤ d ∧ d ≤ dayOf end_ ∧ weekday d ≤ 4 ∧ e ∈ dayTemplate pre post d := by
  have h : simEvents start end_ pre post = .ok _ := simEvents_ok_iff.2 ⟨hle, rfl⟩
  refine ⟨_, h, fun e => ?_⟩
  simp only [mem_simEvents h, hiOf_eq start end_ htod, isBDay_iff]

/-- event times are strictly increasing (any flags, any accepted input) -/
theorem C12_sorted (start end_ : Int) (pre post : Bool) (evs : List SimEvent)
    (h : simEvents start end_ pre post = .ok evs) :
    (evs.map (·.time)).Pairwise (· < ·) := by
  rw [(simEvents_ok_iff.1 h).2]
  exact template_flatMap_sorted pre post _ (bdayRange_pairwise start end_)

theorem C12_reject (start end_ : Int) (pre post : Bool) (h : end_ < start) :
    simEvents start end_ pre post = .error .value := by
  unfold simEvents
  rw [if_pos h]

theorem C12_template (pre post : Bool) (d : Int) :
    dayTemplate pre post d =
      (if pre then [⟨d * 86400, .preMarket⟩] else []) ++
      [⟨d * 86400 + 52200, .marketOpen⟩, ⟨d * 86400 + 75600, .marketClose⟩] ++
      (if post then [⟨d * 86400 + 86340, .postMarket⟩] else []) := rfl

theorem C12_template_cases (d : Int) :
    dayTemplate false false d = [⟨d * 86400 + 52200, .marketOpen⟩, ⟨d * 86400 + 75600, .marketClose⟩] ∧
    dayTemplate true false d =
      [⟨d * 86400, .preMarket⟩, ⟨d * 86400 + 52200, .marketOpen⟩, ⟨d * 86400 + 75600, .marketClose⟩] ∧
    dayTemplate false true d =
      [⟨d * 86400 + 52200, .marketOpen⟩, ⟨d * 86400 + 75600, .marketClose⟩, ⟨d * 86400 + 86340, .postMarket⟩] ∧
    dayTemplate true true d =
      [⟨d * 86400, .preMarket⟩, ⟨d * 86400 + 52200, .marketOpen⟩, ⟨d * 86400 + 75600, .marketClose⟩,
        ⟨d * 86400 + 86340, .postMarket⟩] :=
  ⟨dayTemplate_ff d, rfl, rfl, rfl⟩

/-- every event of day `d`'s template lies on date `d`; the four times of day are 00:00, 14:30, 21:00, 23:59 -/
theorem C12_template_tod (d : Int) :
    (∀ pre post e, e ∈ dayTemplate pre post d → dayOf e.time = d) ∧
    todOf (d * 86400) = 0 ∧ todOf (d * 86400 + 52200) = 14 * 3600 + 30 * 60 ∧
    todOf (d * 86400 + 75600) = 21 * 3600 ∧ todOf (d * 86400 + 86340) = 23 * 3600 + 59 * 60 := by
  refine ⟨fun pre post e he => ?_, ?_, ?_, ?_, ?_⟩
  · have := template_time_bounds he
    unfold dayOf; omega
  all_goals (unfold todOf; omega)

/-! ## Non-vacuity -/

/-- 2020-02-28 (Fri, day 18320) 09:00:00 … 2020-03-02 (Mon, day 18323) 17:00:00: the weekend 02-29 / 03-01 is
skipped; hypotheses of `C12_events` hold. -/
example :
    let start : Int := 18320 * 86400 + 32400
    let end_ : Int := 18323 * 86400 + 61200
    start ≤ end_ ∧ todOf start ≤ todOf end_ ∧
    simEvents start end_ true true = .ok
      [⟨18320 * 86400, .preMarket⟩, ⟨18320 * 86400 + 52200, .marketOpen⟩,
       ⟨18320 * 86400 + 75600, .marketClose⟩, ⟨18320 * 86400 + 86340, .postMarket⟩,
       ⟨18323 * 86400, .preMarket⟩, ⟨18323 * 86400 + 52200, .marketOpen⟩,
       ⟨18323 * 86400 + 75600, .marketClose⟩, ⟨18323 * 86400 + 86340, .postMarket⟩] ∧
    bdayRange start end_ = [18320, 18323] := by
  refine ⟨by decide, by decide, by rfl, by rfl⟩

/-- the reject branch is reachable -/
example : simEvents 100 99 false false = .error .value := C12_reject 100 99 false false (by decide)

/-- the time-of-day precondition matters: with an end time-of-day before the start's the end date is dropped
(pandas' `date_range` keeps the start's time of day), as `C12_events_general` says. -/
example : bdayRange (18320 * 86400 + 61200) (18323 * 86400 + 32400) = [18320] := by rfl

end Qs.C12
