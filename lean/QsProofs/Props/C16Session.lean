import QsProofs.Lemmas.SessionLifts
import QsProofs.Props.C16
import Mathlib.Data.Rat.Floor

/-!
# C16 (session level) — one observation per asset per business day, that day's close

Last sentence of property C16: "During a backtest every signal receives exactly one observation per asset per
business day — that day's close — and an asset that enters a dynamic universe later starts with an empty window."

The component theorems of `Props/C16.lean` are about `SignalsCollection.update` iterated over an abstract list of
days (`Sig.updateAll`, `Sig.runDays`).  Here they are tied to the event loop.

Hypotheses of `C16_session_windows` (inherited from `C16_cadence`): every configured lookback list is non-empty and
the start universe has no duplicate (`["A","A"]` would feed `A` twice a day).  `Sig.DaysPos` (on every close event
every tracked asset has a positive fed price) is derived from the absence of an error (`Sig.updateAll_none_iff`).
-/

set_option linter.unusedSectionVars false

namespace Qs
open Qs.Sess Qs.Lift

section Structural
variable {α : Type} [Add α] [Sub α] [Mul α] [Div α] [Neg α] [NumOps α]

/-- (1) At an event that is not a market close (or when no collection is configured) the `signals` component is
    untouched — whether the step returns or raises.
(2) At a market close, a step that returns normally has applied exactly one `SignalsCollection.update`, with the
    universe and the prices (a missing price reads `cfg.nan`) of that instant, and that update returned normally.
(3) The other stages are frames for `signals`: `rebalanceAt` (weights, sizing, order execution) at any time and the
    equity stage leave it as it is; the broker update does not have access to it. -/
theorem C16_session_step (cfg : SessionCfg α) (alpha : Alpha α) (px : Px α) (sched : List Int) (s : Session α)
    (ev : SimEvent) :
    ((ev.kind ≠ .marketClose ∨ s.signals = none) → (s.step cfg alpha px sched ev).1.signals = s.signals) ∧
    (∀ c s', s.signals = some c → ev.kind = .marketClose → s.step cfg alpha px sched ev = (s', none) →
      ∃ c', c.update (cfg.uni.assets ev.time) (fun a => (px ev.time a).getD cfg.nan) = (c', none) ∧
        s'.signals = some c') ∧
    (∀ t s₂, (rebalanceAt cfg alpha px t s₂).1.signals = s₂.signals) ∧
    (∀ s₃, (eqStage cfg ev s₃).1.signals = s₃.signals) :=
  ⟨step_signals_other cfg alpha px sched s ev,
   fun c s' hc hk h => step_signals_close cfg alpha px sched s s' ev c hc hk h,
   fun t s₂ => (rebalanceAt_frame cfg alpha px t s₂).2.2.2,
   fun s₃ => (eqStage_frame cfg ev s₃).2.2.2⟩

/-- Over any event list, from any session state holding a collection `c`: if the run
returns normally, the collection it leaves is the result of `Sig.updateAll c days` where `days` lists, in event
order, the `(universe at ev.time, prices at ev.time)` of exactly the events `ev` with `ev.kind = marketClose` —
one `SignalsCollection.update` per close event and nothing else — and no update raised. -/
theorem C16_session_cadence (cfg : SessionCfg α) (alpha : Alpha α) (px : Px α) (sched : List Int)
    (events : List SimEvent) (s s' : Session α) (c : SignalsCollection α) (hc : s.signals = some c)
    (hrun : Session.runEvents cfg alpha px sched s events = (s', none)) :
    ∃ c', s'.signals = some c' ∧
      Sig.updateAll c ((events.filter fun ev => decide (ev.kind = .marketClose)).map fun ev =>
        (cfg.uni.assets ev.time, fun a => (px ev.time a).getD cfg.nan)) = (c', none) := by
  obtain ⟨c', h1, h2⟩ := runEvents_signals cfg alpha px sched events s s' c hc hrun
  exact ⟨c', h2, h1⟩

/-- without a configured collection there is never one -/
theorem C16_session_none (cfg : SessionCfg α) (alpha : Alpha α) (px : Px α) (sched : List Int)
    (events : List SimEvent) (s : Session α) (hc : s.signals = none) :
    (Session.runEvents cfg alpha px sched s events).1.signals = none :=
  runEvents_inv (I := fun s' => s'.signals = none) cfg alpha px sched s events
    (fun s1 ev _ h => (step_signals_other cfg alpha px sched s1 ev (Or.inr h)).trans h) hc

end Structural

section Lawful
variable {α : Type} [Field α] [LinearOrder α] [IsStrictOrderedRing α] [FloorRing α] [NumOps α] [LawfulNumOps α]

/-- A session constructed by `Session.init` with signal configurations `specs`, run over
any event list `evs` (e.g. a prefix of its own clock) without error.  Let `A₀ = cfg.uni.assets cfg.start` be the start
universe and `days = Lift.closeDays cfg px evs` the `(universe, prices)` of the close events.  Then after the run:
* `warmup` is the number of market-close events;
* the signals are, in configuration order, `Sig.runDays (Signal.new kind lookbacks A₀) days`: each signal evolves
  independently of the others;
* for every asset `a` in the start universe or in the universe of some close event, and every configured lookback
  `l`, the buffer `(a, bump kind l)` holds exactly the last `bump kind l` items of `Sig.dayStream (a ∈ A₀) a days` —
  one close per business-day close event, starting with the first close event at which `a` is tracked; an asset that
  enters a dynamic universe later starts from the empty window;
* positivity of the fed prices is not a hypothesis but a consequence of "the run returned normally": when at least
  one signal is configured, every tracked asset had a positive fed price at every close event (`Sig.DaysPos`) —
  otherwise `AssetPriceBuffers.append` would have raised. -/
theorem C16_session_windows (cfg : SessionCfg α) (alpha : Alpha α) (px : Px α)
    (specs : List (SignalKind × List Nat)) (hspecs : cfg.signalSpecs = some specs)
    (s0 : Session α) (events : List SimEvent) (sched : List Int)
    (hinit : Session.init cfg = .ok (s0, events, sched))
    (hl : ∀ sp ∈ specs, sp.2 ≠ []) (hA : (cfg.uni.assets cfg.start).Nodup)
    (evs : List SimEvent)
    (s' : Session α) (hrun : Session.runEvents cfg alpha px sched s0 evs = (s', none)) :
    ∃ c', s'.signals = some c' ∧
      c'.warmup = (evs.filter fun ev => decide (ev.kind = .marketClose)).length ∧
      c'.signals = specs.map (fun sp =>
        Sig.runDays (Signal.new sp.1 sp.2 (cfg.uni.assets cfg.start)) (closeDays cfg px evs)) ∧
      (∀ sp ∈ specs, ∀ a, (a ∈ cfg.uni.assets cfg.start ∨ ∃ d ∈ closeDays cfg px evs, a ∈ d.1) → ∀ l ∈ sp.2,
        (Sig.runDays (Signal.new sp.1 sp.2 (cfg.uni.assets cfg.start) : Signal α)
            (closeDays cfg px evs)).findBuffer a (Signal.bump sp.1 l) =
          some { asset := a, lookback := Signal.bump sp.1 l,
                 items := lastN (Signal.bump sp.1 l)
                   (Sig.dayStream (decide (a ∈ cfg.uni.assets cfg.start)) a (closeDays cfg px evs)) }) ∧
      (specs ≠ [] → Sig.DaysPos (cfg.uni.assets cfg.start) (closeDays cfg px evs)) := by
  obtain ⟨b, _, _, _, _, _, rfl⟩ := init_iff.1 hinit
  have h0 : (initSession cfg b).signals = some ({ signals := specs.map (fun sp =>
      Signal.new sp.1 sp.2 (cfg.uni.assets cfg.start)) } : SignalsCollection α) := by
    rw [initSession, hspecs]; rfl
  obtain ⟨c', hall, hc'⟩ := runEvents_signals cfg alpha px sched evs _ s' _ h0 hrun
  have hwf : ∀ s ∈ ({ signals := specs.map fun sp => Signal.new sp.1 sp.2 (cfg.uni.assets cfg.start) } :
      SignalsCollection α).signals, ∃ σ, Sig.Holds s σ := by
    intro s hs
    obtain ⟨sp, hsp, rfl⟩ := List.mem_map.mp hs
    exact ⟨_, Sig.holds_new sp.1 sp.2 _ (hl sp hsp) hA⟩
  -- the run returned normally, so every fed price was positive
  obtain ⟨hposAll, hcad⟩ := (Sig.updateAll_none_iff _ c' (closeDays cfg px evs) hwf).mp hall
  have hpos : ∀ sp ∈ specs, Sig.DaysPos (cfg.uni.assets cfg.start) (closeDays cfg px evs) :=
    fun sp hsp => hposAll (Signal.new sp.1 sp.2 (cfg.uni.assets cfg.start)) (List.mem_map.mpr ⟨sp, hsp, rfl⟩)
  exact ⟨c', hc', by rw [hcad, Nat.zero_add]; exact closeDays_length cfg px evs,
    by rw [hcad]; simp only [List.map_map, Function.comp_def],
    fun sp hsp a ha l hlm => C16_cadence sp.1 sp.2 _ _ (hl sp hsp) hA (hpos sp hsp) a ha l hlm,
    fun hne => (List.exists_mem_of_ne_nil specs hne).elim fun sp hsp => hpos sp hsp⟩

/-- an event-level sufficient condition for `Sig.DaysPos` (the conclusion of `C16_session_windows`, hypothesis of
`C16_cadence`): at every market-close event of the run, every asset of the start universe or of the universe at some
event of the run has a positive fed price -/
theorem C16_session_daysPos (cfg : SessionCfg α) (px : Px α) (evs : List SimEvent)
    (h : ∀ ev ∈ evs, ev.kind = .marketClose → ∀ a,
      (a ∈ cfg.uni.assets cfg.start ∨ ∃ ev' ∈ evs, a ∈ cfg.uni.assets ev'.time) →
        0 < (px ev.time a).getD cfg.nan) :
    Sig.DaysPos (cfg.uni.assets cfg.start) (closeDays cfg px evs) := by
  intro pre d post hsplit a ha
  obtain ⟨ev, hev, hk, rfl⟩ := mem_closeDays.1 (show d ∈ closeDays cfg px evs by rw [hsplit]; simp)
  apply h ev hev hk a
  rcases ha with ha | ⟨e, he, hae⟩
  · exact Or.inl ha
  · right
    obtain ⟨ev', hev', _, rfl⟩ := mem_closeDays.1 (show e ∈ closeDays cfg px evs by
      rw [hsplit]
      rcases List.mem_append.mp he with h1 | h1
      · exact List.mem_append_left _ h1
      · simp only [List.mem_singleton] at h1; subst h1; simp)
    exact ⟨ev', hev', hae⟩

end Lawful

/-! ## Non-vacuity at `α := ℚ` (`fieldNumOps ℚ`)

Monday 2021-01-04 00:00 … Wednesday 2021-01-06 00:00 (three business days).  Dynamic universe: `A` from the epoch,
`B` from Tuesday 00:00.  One momentum signal (lookback 1: two-price windows) and one moving average (lookback 2).
`A` closes at 10, 11, 12; `B` closes at 7 every day (opens: `A` 9, `B` 7).  The weekly (Friday) rebalance does not
occur inside the range, so the run exercises the signal path only.  The kernel evaluates the whole run. -/

section nonvacuity

noncomputable local instance (priority := high) ratOps16s : NumOps ℚ := fieldNumOps ℚ
local instance (priority := high) ratLawful16s : LawfulNumOps ℚ := fieldNumOps_lawful ℚ

def exPx16s : Px ℚ := fun t a =>
  if a = "A" then (if t % 86400 = 52200 then some 9 else some ((t / 86400 - 18621 : Int) : ℚ))
  else if a = "B" then some 7 else none

noncomputable def exCfg16s : SessionCfg ℚ :=
  { start := 18631 * 86400, end_ := 18633 * 86400, rebalance := .weekly "FRI", longOnly := true, param := 0,
    fee := .zero, initialCash := 1000, uni := .dynamic [("A", some 0), ("B", some (18632 * 86400))],
    signalSpecs := some [(.momentum, [1]), (.sma, [2])], nan := 0 }

/-- the session's own clock: open and close of Monday, Tuesday, Wednesday -/
def exEvents16s : List SimEvent :=
  [⟨18631 * 86400 + 52200, .marketOpen⟩, ⟨18631 * 86400 + 75600, .marketClose⟩,
   ⟨18632 * 86400 + 52200, .marketOpen⟩, ⟨18632 * 86400 + 75600, .marketClose⟩,
   ⟨18633 * 86400 + 52200, .marketOpen⟩, ⟨18633 * 86400 + 75600, .marketClose⟩]

theorem exInit16s : ∃ s0 sched, Session.init exCfg16s = .ok (s0, exEvents16s, sched) := by
  obtain ⟨⟨s0, evs, sc⟩, hi, hp⟩ := ok_of_test (x := Session.init exCfg16s) (fun r => decide (r.2.1 = exEvents16s))
    (by decide +kernel)
  exact ⟨s0, sc, of_decide_eq_true hp ▸ hi⟩

/-- the whole example run returns normally (kernel evaluation of the model) -/
theorem exRun16s : (Session.run exCfg16s (singleAlpha 1) exPx16s).toOption.map (fun r => r.2.isNone) = some true := by
  decide +kernel

/-- the three days the signals see: universe `[A]` on Monday, `[A, B]` from Tuesday; closes 10/11/12 and 7 -/
theorem exDays16s : (closeDays exCfg16s exPx16s exEvents16s).map (fun d => (d.1, d.2 "A", d.2 "B")) =
    [(["A"], 10, 7), (["A", "B"], 11, 7), (["A", "B"], 12, 7)] := by
  decide +kernel

theorem exPos16s : Sig.DaysPos (exCfg16s.uni.assets exCfg16s.start) (closeDays exCfg16s exPx16s exEvents16s) := by
  apply C16_session_daysPos
  intro ev hev hk a ha
  have hAB : a = "A" ∨ a = "B" := by
    obtain ⟨t, ha⟩ : ∃ t, a ∈ exCfg16s.uni.assets t := ha.elim (fun h => ⟨_, h⟩) fun ⟨_, _, h⟩ => ⟨_, h⟩
    simp only [exCfg16s, UniverseSpec.assets] at ha
    rw [mem_dynamicAssets] at ha
    obtain ⟨e, he, _⟩ := ha
    simp only [List.mem_cons, Prod.mk.injEq, List.not_mem_nil, or_false] at he
    rcases he with ⟨rfl, _⟩ | ⟨rfl, _⟩ <;> simp
  simp only [exEvents16s, List.mem_cons, List.not_mem_nil, or_false] at hev
  rcases hev with rfl | rfl | rfl | rfl | rfl | rfl <;> simp at hk <;>
    rcases hAB with rfl | rfl <;> simp [exPx16s]

/-- all hypotheses of `C16_session_windows` hold on the example; its conclusion, read off: `warmup = 3`; the momentum
buffer (two prices) of `A` holds the last two closes `[11, 12]`; the late entrant `B` (in the universe from Tuesday)
has the window `[7, 7]` — Tuesday's and Wednesday's close, nothing from Monday; the moving-average buffer of `B`
holds the same two closes. -/
example : ∃ s0 sched s' c', Session.init exCfg16s = .ok (s0, exEvents16s, sched) ∧
    Session.runEvents exCfg16s (singleAlpha 1) exPx16s sched s0 exEvents16s = (s', none) ∧
    s'.signals = some c' ∧ c'.warmup = 3 ∧
    (∃ sm ss, c'.signals = [sm, ss] ∧
      sm.findBuffer "A" 2 = some { asset := "A", lookback := 2, items := [11, 12] } ∧
      sm.findBuffer "B" 2 = some { asset := "B", lookback := 2, items := [7, 7] } ∧
      ss.findBuffer "B" 2 = some { asset := "B", lookback := 2, items := [7, 7] }) := by
  obtain ⟨s0, sched, h0⟩ := exInit16s
  have hr := exRun16s
  simp only [run_eq, h0, Except.map, Except.toOption, Option.map_some, Option.some.injEq,
    Option.isNone_iff_eq_none] at hr
  have hrun : Session.runEvents exCfg16s (singleAlpha 1) exPx16s sched s0 exEvents16s =
      ((Session.runEvents exCfg16s (singleAlpha 1) exPx16s sched s0 exEvents16s).1, none) := Prod.ext rfl hr
  obtain ⟨c', hc', hw, hsig, hbuf, _⟩ := C16_session_windows exCfg16s (singleAlpha 1) exPx16s
    [(.momentum, [1]), (.sma, [2])] rfl s0 exEvents16s sched h0 (by simp) (by decide) exEvents16s _ hrun
  -- the streams of `A` and `B` over the three close days, and that `B` is tracked on one of them
  have hsA : Sig.dayStream (decide ("A" ∈ exCfg16s.uni.assets exCfg16s.start)) "A"
      (closeDays exCfg16s exPx16s exEvents16s) = [10, 11, 12] := by decide +kernel
  have hsB : Sig.dayStream (decide ("B" ∈ exCfg16s.uni.assets exCfg16s.start)) "B"
      (closeDays exCfg16s exPx16s exEvents16s) = [7, 7] := by decide +kernel
  have hB : ∃ e ∈ closeDays exCfg16s exPx16s exEvents16s, "B" ∈ e.1 := by
    have : (closeDays exCfg16s exPx16s exEvents16s).any (fun d => decide ("B" ∈ d.1)) = true := by decide +kernel
    obtain ⟨d, hd, hb⟩ := List.any_eq_true.mp this
    exact ⟨d, hd, by simpa using hb⟩
  refine ⟨s0, sched, _, c', h0, hrun, hc', by rw [hw]; decide, _, _, by rw [hsig]; rfl, ?_, ?_, ?_⟩
  · exact (hbuf (.momentum, [1]) (by simp) "A" (Or.inl (by decide)) 1 (by simp)).trans (by
      rw [hsA]; simp [Signal.bump, lastN])
  · exact (hbuf (.momentum, [1]) (by simp) "B" (Or.inr hB) 1 (by simp)).trans (by rw [hsB]; simp [Signal.bump, lastN])
  · exact (hbuf (.sma, [2]) (by simp) "B" (Or.inr hB) 2 (by simp)).trans (by rw [hsB]; simp [Signal.bump, lastN])

end nonvacuity

end Qs
