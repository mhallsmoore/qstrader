import QsProofs.Lemmas.Determinism
import QsProofs.Props.C06
import QsProofs.Props.C09
import Mathlib.Data.Rat.Floor

/-!
# C18 — Identical inputs give identical results

Running the same backtest again — in the same process, in a fresh interpreter with a different
string-hash seed, or with data-source objects that already served an earlier session — produces the same fills
(apart from order identifiers), the same equity curve and the same target allocations, bit for bit.

The Lean model is a pure function, so "same inputs, same outputs" holds by `rfl`.  The content of C18 is that
the **hidden inputs** of a Python run do not influence the observable result:

1. the enumeration order of Python `set`s (which depends on the string-hash seed):
   `set(held) | set(universe)` in the PCM (`C18_sorted`), the key order of the dictionaries handed to the order
   sizers and to the order generation (`C18_sizer_order`, `C18_orders_sorted`),
   `set(universe) - set(assets)` in `Signal.update_assets` (`C18_buffers`);
2. the memo table of the price lookups (`functools.lru_cache`): what an earlier session left in it, what was
   evicted (`C18_memo`, `C18_memo_sequence`);
3. the order identifiers (`uuid4().hex` in the code, a counter in the model) (`C18_ids…`).

`C18_independent` composes 2 and 3 for `Session.runEvents`: the observable
`(fills without ids, equity curve, target allocations, error)` is the same for every start value of the id
counter and when every price lookup of the market view is answered from one coherent memo table (`pxVia px tbl`; a
table that is threaded and grows from lookup to lookup is the subject of `C18_memo_sequence`, on `Det.cachedSeq`, and
is not connected to `Session.runEvents`: the session model takes the market view as a function).

**Carrier remark (sizers).** `C18_sizer_order` is stated over the lawful *field* carrier, where the normalising
sum `Σ w` is permutation invariant (`List.Perm.sum_eq`).  At the `Float` carrier the order of summation matters;
the code is deterministic there only because it iterates `weights.items()` of a `dict`, and the insertion order
of a `dict` is deterministic in CPython (unlike the enumeration order of a `set`): the dictionary is built from
the *sorted* asset list (`C18_sorted`) overlaid with alpha's own insertion order.  So at the Float carrier the
determinism of the sum rests on `C18_sorted` (equal lists, not merely permutations), and the present theorem is
the additional statement that even a permuted dictionary could not change the sized target in exact arithmetic.

The statements rest on auxiliary definitions besides the model's: id erasure (`Det.eraseIds`, `Det.eraseIdsS`),
`update_assets` with an explicit enumeration of the set difference (`Det.updateAssetsWith`, `Det.updateWith`; the model's
functions are definitionally the instances at the universe order), and, defined in this file, the price lookup and the
market view behind a memo table (`Det.cachedSeq`, `rawPx`, `cachedPx`, `pxVia`).
-/

set_option linter.unusedSectionVars false

namespace Qs
open Num Det

/-! ## set enumeration order: sorted asset unions -/

section Sorted
variable {α : Type} [NumOps α]

/-- `sorted(set(xs))` depends on the member *set* only — neither order nor multiplicity. -/
theorem C18_sorted_set {l l' : List String} (h : ∀ a, a ∈ l ↔ a ∈ l') : sortDedup l = sortDedup l' :=
  sortDedup_congr h

/-- `sorted(set(xs))` does not depend on the order in which the elements are enumerated. -/
theorem C18_sorted {l l' : List String} (h : l.Perm l') : sortDedup l = sortDedup l' :=
  C18_sorted_set fun _ => h.mem_iff

/-- uniqueness: a strictly ascending list is determined by its members
(`eq_of_pairwise_lt_of_mem_iff`). -/
theorem C18_sorted_unique {l₁ l₂ : List String} (h₁ : l₁.Pairwise (· < ·)) (h₂ : l₂.Pairwise (· < ·))
    (hm : ∀ a, a ∈ l₁ ↔ a ∈ l₂) : l₁ = l₂ :=
  eq_of_pairwise_lt_of_mem_iff h₁ h₂ hm

/-- `_obtain_full_asset_list` depends on the sets of held and of universe assets only -/
theorem C18_sorted_assets_set {held held' : List (String × Int)} {uni uni' : List String}
    (hh : ∀ a, a ∈ held.map (·.1) ↔ a ∈ held'.map (·.1)) (hu : ∀ a, a ∈ uni ↔ a ∈ uni') :
    fullAssetList held uni = fullAssetList held' uni' :=
  C18_sorted_set fun a => by rw [List.mem_append, List.mem_append, hh a, hu a]

/-- `_obtain_full_asset_list`: invariant under permuting the universe and the key order of the
holdings dictionary. -/
theorem C18_sorted_assets {held held' : List (String × Int)} {uni uni' : List String}
    (hh : held.Perm held') (hu : uni.Perm uni') : fullAssetList held uni = fullAssetList held' uni' :=
  C18_sorted_assets_set (fun _ => (hh.map _).mem_iff) (fun _ => hu.mem_iff)

/-- recorded allocation: for the *same* optimiser output `alpha` (whose extra keys keep alpha's
own insertion order) the full weight vector is invariant under permuting the universe and the holdings. -/
theorem C18_sorted_weights {held held' : List (String × Int)} {uni uni' : List String}
    (hh : held.Perm held') (hu : uni.Perm uni') (alpha : List (String × α)) :
    fullWeightVector held uni alpha = fullWeightVector held' uni' alpha := by
  unfold fullWeightVector
  rw [C18_sorted_assets hh hu]

/-- the whole PCM call: same recorded weights and same orders for permuted universe and permuted
holdings dictionary (pairwise distinct keys — it is a dictionary), for any sizer. -/
theorem C18_sorted_pcm {held held' : List (String × Int)} {uni uni' : List String}
    (hh : held.Perm held') (hhk : (held.map (·.1)).Nodup) (hu : uni.Perm uni') (alpha : List (String × α))
    (sizer : List (String × α) → Except Err (List (String × Int))) :
    pcmCall held uni alpha sizer = pcmCall held' uni' alpha sizer := by
  unfold pcmCall
  rw [C18_sorted_weights hh hu]
  -- the order generation sits under the `match` on the sizer's result: rewrite it for every target `t`
  simp only [fun t => rebalanceOrders_congr (target := t) rfl (lookup_perm hh hhk)]

end Sorted

/-! ## set enumeration order: the sizers and the order list -/

section SizerOrder
variable {α : Type} [Field α] [LinearOrder α] [IsStrictOrderedRing α] [FloorRing α] [NumOps α] [LawfulNumOps α]

/-- `sorted(weights.items())`: with pairwise distinct keys the sorted item list does not
depend on the insertion order. -/
theorem C18_sizer_order_sort {β : Type} {w w' : List (String × β)} (hp : w.Perm w')
    (hk : (w.map (·.1)).Nodup) : sortByKey w = sortByKey w' :=
  sortByKey_eq_of_perm_sorted ((Qs.sortByKey_perm w').trans hp.symm)
    (sortByKey_keys_pairwise_lt ((hp.map _).nodup_iff.mp hk))

/-- the normalising sums of the sizers (field carrier) are permutation invariant -/
theorem C18_sizer_order_sum {l l' : List α} (hp : l.Perm l') :
    sumNeumaier l = sumNeumaier l' ∧ sumNaive l = sumNaive l' :=
  ⟨by rw [sumNeumaier_eq, sumNeumaier_eq, hp.sum_eq], by rw [sumNaive_eq_sum, sumNaive_eq_sum, hp.sum_eq]⟩

/-- Both order sizers give the same result (target or error) for permuted weight
dictionaries. `x` is the cash buffer resp. the gross leverage. -/
theorem C18_sizer_order (fee : FeeModel α) (E x : α) (price : String → Option α) {w w' : Weights α}
    (hp : w.Perm w') (hk : (w.map (·.1)).Nodup) :
    dwSize fee E x price w = dwSize fee E x price w' ∧ lsSize fee E x price w = lsSize fee E x price w' := by
  -- both sizers normalise the weights (a permutation-invariant sum) and then read them through `sortByKey`
  constructor
  · unfold dwSize
    rw [hp.isEmpty_eq]
    rcases dwNormalise_perm hp with ⟨h1, h2⟩ | ⟨nw, nw', h1, h2, h3, h4⟩
    · rw [h1, h2]
    · rw [h1, h2]
      simp only [bind, Except.bind, C18_sizer_order_sort h3 (h4 ▸ hk)]
  · unfold lsSize
    obtain ⟨h3, h4⟩ := lsNormalise_perm x hp
    rw [hp.isEmpty_eq, C18_sizer_order_sort h3 (h4 ▸ hk)]

end SizerOrder

/-- `_generate_rebalance_orders` is invariant under permuting the target dictionary and the
holdings dictionary (pairwise distinct keys), and its result is strictly ascending by asset: the order list is
determined by the two dictionaries as *functions*. -/
theorem C18_orders_sorted {target target' held held' : List (String × Int)}
    (ht : target.Perm target') (htk : (target.map (·.1)).Nodup)
    (hh : held.Perm held') (hhk : (held.map (·.1)).Nodup) :
    rebalanceOrders target held = rebalanceOrders target' held' ∧
    ((rebalanceOrders target held).map (·.1)).Pairwise (· < ·) :=
  ⟨rebalanceOrders_congr (C18_sizer_order_sort ht htk) (lookup_perm hh hhk), rebalanceOrders_keys_pairwise_lt htk held⟩

/-- `_generate_rebalance_orders` reads the holdings only through `lookup` -/
theorem C18_orders_sorted_lookup (target : List (String × Int)) {held held' : List (String × Int)}
    (h : ∀ a, held.lookup a = held'.lookup a) : rebalanceOrders target held = rebalanceOrders target held' :=
  rebalanceOrders_congr rfl h

/-! ## the memo table of the price lookups -/

section Memo
variable {α : Type} [Add α] [Sub α] [Mul α] [Div α] [Neg α] [NumOps α]

/-- the key of the memoised `get_bid`/`get_ask`: `(data source, time, asset)`; sources are numbered -/
abbrev PxKey := Nat × Int × String

/-- the uncached lookup: the point-in-time pipeline `barLookup` on the file the source holds for the asset -/
def rawPx (adjust : Nat → Bool) (file : Nat → String → List (Bar α)) (k : PxKey) : Option α :=
  barLookup (adjust k.1) (file k.1 k.2.2) k.2.1

/-- the lookup as the code performs it: through the `lru_cache` memo table -/
def cachedPx (adjust : Nat → Bool) (file : Nat → String → List (Bar α)) (tbl : List (PxKey × Option α))
    (k : PxKey) : Option α × List (PxKey × Option α) :=
  cachedGet (rawPx adjust file) tbl k

/-- For any coherent memo table — the empty one, one left by earlier sessions over the same data
source objects, or any sub-table after evictions — the cached lookup returns the uncached value, and the
updated table is coherent again. -/
theorem C18_memo (adjust : Nat → Bool) (file : Nat → String → List (Bar α)) (tbl : List (PxKey × Option α))
    (k : PxKey) (hc : ∀ p ∈ tbl, p.2 = rawPx adjust file p.1) :
    (cachedPx adjust file tbl k).1 = barLookup (adjust k.1) (file k.1 k.2.2) k.2.1 ∧
    ∀ p ∈ (cachedPx adjust file tbl k).2, p.2 = rawPx adjust file p.1 :=
  C06_memo (rawPx adjust file) tbl k hc

/-- which tables are coherent: the empty table; any sub-table of a coherent table. -/
theorem C18_memo_tables (adjust : Nat → Bool) (file : Nat → String → List (Bar α)) :
    (∀ p ∈ ([] : List (PxKey × Option α)), p.2 = rawPx adjust file p.1) ∧
    (∀ tbl tbl' : List (PxKey × Option α), (∀ p ∈ tbl', p ∈ tbl) →
      (∀ p ∈ tbl, p.2 = rawPx adjust file p.1) → ∀ p ∈ tbl', p.2 = rawPx adjust file p.1) :=
  ⟨C06_memo_empty _, fun tbl tbl' hs hc => C06_memo_evict _ tbl tbl' hs hc⟩

namespace Det
section
variable {κ ν : Type} [BEq κ] [LawfulBEq κ]

/-- a sequence of memoised calls threading the memo table: the values returned and the final table -/
def cachedSeq (f : κ → ν) : List (κ × ν) → List κ → List ν × List (κ × ν)
  | tbl, [] => ([], tbl)
  | tbl, k :: ks => ((cachedGet f tbl k).1 :: (cachedSeq f (cachedGet f tbl k).2 ks).1,
                     (cachedSeq f (cachedGet f tbl k).2 ks).2)

end
end Det

/-- For any key and value type: a whole sequence of memoised calls that threads the table, started from any
coherent table, returns exactly the uncached values; the final table is coherent. -/
theorem C18_memo_sequence_gen {κ ν : Type} [BEq κ] [LawfulBEq κ] (f : κ → ν) (tbl : List (κ × ν)) (ks : List κ)
    (hc : ∀ p ∈ tbl, p.2 = f p.1) :
    (cachedSeq f tbl ks).1 = ks.map f ∧ ∀ p ∈ (cachedSeq f tbl ks).2, p.2 = f p.1 := by
  induction ks generalizing tbl with
  | nil => exact ⟨rfl, hc⟩
  | cons k ks ih =>
    obtain ⟨h1, h2⟩ := C06_memo f tbl k hc
    obtain ⟨h3, h4⟩ := ih (cachedGet f tbl k).2 h2
    exact ⟨by simp only [cachedSeq, List.map_cons, h1, h3], h4⟩

/-- The price lookups of a run, in any order and number, served from any coherent table. -/
theorem C18_memo_sequence (adjust : Nat → Bool) (file : Nat → String → List (Bar α))
    (tbl : List (PxKey × Option α)) (ks : List PxKey) (hc : ∀ p ∈ tbl, p.2 = rawPx adjust file p.1) :
    (cachedSeq (rawPx adjust file) tbl ks).1 = ks.map (fun k => barLookup (adjust k.1) (file k.1 k.2.2) k.2.1) ∧
    ∀ p ∈ (cachedSeq (rawPx adjust file) tbl ks).2, p.2 = rawPx adjust file p.1 :=
  C18_memo_sequence_gen (rawPx adjust file) tbl ks hc

/-- two runs: the values served do not depend on the table the run started with. -/
theorem C18_memo_two_tables {κ ν : Type} [BEq κ] [LawfulBEq κ] (f : κ → ν) (tbl tbl' : List (κ × ν))
    (ks : List κ) (hc : ∀ p ∈ tbl, p.2 = f p.1) (hc' : ∀ p ∈ tbl', p.2 = f p.1) :
    (cachedSeq f tbl ks).1 = (cachedSeq f tbl' ks).1 := by
  rw [(C18_memo_sequence_gen f tbl ks hc).1, (C18_memo_sequence_gen f tbl' ks hc').1]

/-- a market view served through a memo table keyed by `(time, asset)` -/
def pxVia (px : Px α) (tbl : List ((Int × String) × Option α)) : Px α :=
  fun t a => (cachedGet (fun k : Int × String => px k.1 k.2) tbl (t, a)).1

/-- a market view served through any coherent table is the same function -/
theorem C18_memo_view (px : Px α) (tbl : List ((Int × String) × Option α))
    (hc : ∀ p ∈ tbl, p.2 = px p.1.1 p.1.2) : pxVia px tbl = px := by
  funext t a
  exact (C06_memo (fun k : Int × String => px k.1 k.2) tbl (t, a) hc).1

end Memo

/-! ## set enumeration order: `set(universe) - set(assets)` in `Signal.update_assets` -/

section Buffers
variable {α : Type} [Field α] [LinearOrder α] [IsStrictOrderedRing α] [FloorRing α] [NumOps α] [LawfulNumOps α]

/-- the model's `updateAssets` is the instance of `updateAssetsWith` that enumerates in universe order -/
theorem C18_buffers_instance (s : Signal α) (uni : List String) :
    s.updateAssets uni = updateAssetsWith s ((uni.filter fun a => !s.assets.contains a).eraseDups) :=
  updateAssets_eq_with s uni

/-- Track the new assets in the enumeration order `extra` resp. `extra'` (permutations of each
other, duplicate-free), then feed the day's prices (all positive) to every tracked asset: the buffer lookup
function, the lookbacks, the kind, the *set* of tracked assets and the outcome are the same. -/
theorem C18_buffers (mid : String → α) (s : Signal α) {extra extra' : List String}
    (hp : extra.Perm extra') (hnd : extra.Nodup) (hpos : ∀ a ∈ s.assets ++ extra, 0 < mid a) :
    let r := Signal.feed mid (updateAssetsWith s extra) (updateAssetsWith s extra).assets
    let r' := Signal.feed mid (updateAssetsWith s extra') (updateAssetsWith s extra').assets
    (∀ a l, r.1.findBuffer a l = r'.1.findBuffer a l) ∧ (∀ a, a ∈ r.1.assets ↔ a ∈ r'.1.assets) ∧
    r.1.lookbacks = r'.1.lookbacks ∧ r.1.kind = r'.1.kind ∧ r.2 = r'.2 :=
  have h := feedWith_sigEq mid s hp hnd hpos
  ⟨h.1.1.2, h.1.2.2, h.1.1.1, h.1.2.1, h.2⟩

/-- signal values: every `signal(asset, lookback)` call gives the same value or `KeyError`. -/
theorem C18_buffers_call [TransOps α] (mid : String → α) (s : Signal α) {extra extra' : List String}
    (hp : extra.Perm extra') (hnd : extra.Nodup) (hpos : ∀ a ∈ s.assets ++ extra, 0 < mid a)
    (a : String) (l : Nat) :
    (Signal.feed mid (updateAssetsWith s extra) (updateAssetsWith s extra).assets).1.call a l =
      (Signal.feed mid (updateAssetsWith s extra') (updateAssetsWith s extra').assets).1.call a l := by
  obtain ⟨h1, _, _, h4, _⟩ := C18_buffers mid s hp hnd hpos
  unfold Signal.call
  rw [h4, h1]

/-- against the model: whatever duplicate-free enumeration `extra` of the set difference
`set(universe) - set(assets)` Python happens to produce, the day's update of the signal agrees with the model's
`updateAssets` in buffers, tracked set and outcome. -/
theorem C18_buffers_model (mid : String → α) (s : Signal α) (uni extra : List String) (hnd : extra.Nodup)
    (hm : ∀ a, a ∈ extra ↔ a ∈ uni ∧ a ∉ s.assets) (hpos : ∀ a ∈ s.assets ++ uni, 0 < mid a) :
    let r := Signal.feed mid (updateAssetsWith s extra) (updateAssetsWith s extra).assets
    let r' := Signal.feed mid (s.updateAssets uni) (s.updateAssets uni).assets
    (∀ a l, r.1.findBuffer a l = r'.1.findBuffer a l) ∧ (∀ a, a ∈ r.1.assets ↔ a ∈ r'.1.assets) ∧
    r.1.lookbacks = r'.1.lookbacks ∧ r.1.kind = r'.1.kind ∧ r.2 = r'.2 := by
  have hpos' : ∀ a ∈ s.assets ++ extra, 0 < mid a := fun a ha => hpos a (by
    rcases List.mem_append.mp ha with h | h
    · exact List.mem_append_left _ h
    · exact List.mem_append_right _ ((hm a).mp h).1)
  exact C18_buffers mid s (enum_perm s uni extra hnd hm) hnd hpos'

/-- the whole `SignalsCollection.update`: let every signal `s` enumerate its new assets as
`enum s` resp. `enum' s` (permutations of each other, duplicate-free; prices of all tracked assets positive).
Then signal by signal the buffers, lookbacks, kind and tracked set agree, and so do the warm-up counter and the
outcome.  `SignalsCollection.update` is definitionally `updateWith` at the universe-order enumeration. -/
theorem C18_buffers_collection (c : SignalsCollection α) (mid : String → α) (enum enum' : Signal α → List String)
    (H : ∀ s ∈ c.signals, (enum s).Perm (enum' s) ∧ (enum s).Nodup ∧ ∀ a ∈ s.assets ++ enum s, 0 < mid a) :
    List.Forall₂ SigEq (updateWith c enum mid).1.signals (updateWith c enum' mid).1.signals ∧
    (updateWith c enum mid).1.warmup = (updateWith c enum' mid).1.warmup ∧
    (updateWith c enum mid).2 = (updateWith c enum' mid).2 := by
  unfold updateWith
  rcases res_cases (List.Forall₂ SigEq) (feedAll_with_perm mid enum enum' c.signals H) with
    ⟨r, r', hr, hr', h⟩ | ⟨r, r', x, hr, hr', h⟩ <;> simp only [hr, hr'] <;> exact ⟨h, trivial, trivial⟩

/-- likewise the whole `SignalsCollection.update` -/
theorem C18_buffers_collection_instance (c : SignalsCollection α) (uni : List String) (mid : String → α) :
    c.update uni mid = updateWith c (fun s => (uni.filter fun a => !s.assets.contains a).eraseDups) mid :=
  update_eq_updateWith c uni mid

end Buffers

section Ids
variable {α : Type} [Add α] [Sub α] [Mul α] [Div α] [Neg α] [NumOps α]

/-- what `eraseIds` keeps: clock, master account, every portfolio, the asset and quantity of every queued order (in
order), and every field of every fill other than `orderId` (the fee model too, by `rfl`; it is not among the
conjuncts) -/
theorem C18_ids_erase_keeps (b : Broker α) :
    (eraseIds b).clock = b.clock ∧ (eraseIds b).master = b.master ∧
    (eraseIds b).entries.map (·.pf) = b.entries.map (·.pf) ∧
    (eraseIds b).entries.map (fun e => e.queue.map fun o => (o.asset, o.qty)) =
      b.entries.map (fun e => e.queue.map fun o => (o.asset, o.qty)) ∧
    (eraseIds b).fillLog.map (fun x => (x.1, x.2.asset, x.2.qty, x.2.time, x.2.price, x.2.commission)) =
      b.fillLog.map (fun x => (x.1, x.2.asset, x.2.qty, x.2.time, x.2.price, x.2.commission)) := by
  refine ⟨rfl, rfl, ?_, ?_, ?_⟩ <;>
    simp only [eraseIds, List.map_map, Function.comp_def, eraseEntry, eraseId, eraseTxn]

/-- `transact_asset`: the portfolio does not read the order id of a transaction. -/
theorem C18_ids_transact (p : Portfolio α) (t : Txn α) (k : Nat) :
    p.transactAsset { t with orderId := k } = p.transactAsset t := rfl

/-- submit: the id of a submitted order influences neither the outcome nor anything but the
stored id. -/
theorem C18_ids_submit (b : Broker α) (pid : String) (o : Order) (k : Nat) :
    eraseIds (b.submitOrder pid o).1 = eraseIds (b.submitOrder pid { o with id := k }).1 ∧
    (b.submitOrder pid o).2 = (b.submitOrder pid { o with id := k }).2 :=
  eraseR_inj_iff.mp ((submitOrder_eraseIds b pid o).trans (submitOrder_eraseIds b pid { o with id := k }).symm)

/-- `applyTxn`: transactions that differ only in `orderId` yield brokers that differ only in the
`orderId` of the appended fill-log entry, with the same outcome. -/
theorem C18_ids_applyTxn (b : Broker α) (pid : String) (t : Txn α) (k : Nat) :
    eraseIds (b.applyTxn pid t).1 = eraseIds (b.applyTxn pid { t with orderId := k }).1 ∧
    (b.applyTxn pid t).2 = (b.applyTxn pid { t with orderId := k }).2 :=
  eraseR_inj_iff.mp ((applyTxn_eraseIds b pid t).trans (applyTxn_eraseIds b pid { t with orderId := k }).symm)

/-- `makeTxn`: the order id is copied into `orderId` and read nowhere else. -/
theorem C18_ids_makeTxn (b : Broker α) (q : Quotes α) (o : Order) :
    (eraseIds b).makeTxn q (eraseId o) = (b.makeTxn q o).map eraseTxn :=
  makeTxn_eraseIds b q o

/-- batch order: the stable sells-first sort looks at the quantity only. -/
theorem C18_ids_batch (l : List (String × Order)) :
    sellsFirst (fun (x : String × Order) => x.2.isSell) (l.map fun x => (x.1, eraseId x.2)) =
      (sellsFirst (fun (x : String × Order) => x.2.isSell) l).map fun x => (x.1, eraseId x.2) :=
  (sellsFirst_map _ _ l).symm

theorem C18_ids_update_comm (b : Broker α) (t : Int) (q : Quotes α) :
    eraseIds (b.update t q).1 = ((eraseIds b).update t q).1 ∧ (b.update t q).2 = ((eraseIds b).update t q).2 :=
  Prod.ext_iff.mp (update_eraseIds b t q)

/-- `update`: brokers equal up to ids stay equal up to ids, with equal outcomes. -/
theorem C18_ids_update {b b' : Broker α} (h : eraseIds b = eraseIds b') (t : Int) (q : Quotes α) :
    eraseIds (b.update t q).1 = eraseIds (b'.update t q).1 ∧ (b.update t q).2 = (b'.update t q).2 :=
  update_sim h t q

/-- `ExecutionHandler.__call__`: two id streams `n, n+1, …` and `m, m+1, …`. -/
theorem C18_ids_execute (px : Px α) (t : Int) {b b' : Broker α} (h : eraseIds b = eraseIds b') (n m : Nat)
    (os : List (String × Int)) :
    eraseIds (executeOrders px t b n os).1 = eraseIds (executeOrders px t b' m os).1 ∧
    (executeOrders px t b n os).2.2 = (executeOrders px t b' m os).2.2 :=
  executeOrders_sim px t h n m os

/-- `QuantTradingSystem.__call__`: sessions equal up to ids stay equal up to ids, with equal outcomes -/
theorem C18_ids_rebalance (cfg : SessionCfg α) (alpha : Alpha α) (px : Px α) (t : Int) {s s' : Session α}
    (h : eraseIdsS s = eraseIdsS s') :
    eraseIdsS (rebalanceAt cfg alpha px t s).1 = eraseIdsS (rebalanceAt cfg alpha px t s').1 ∧
    (rebalanceAt cfg alpha px t s).2 = (rebalanceAt cfg alpha px t s').2 :=
  rebalanceAt_blind cfg alpha px t s s' h

/-- one simulation event (`Session.step`): sessions equal up to ids stay so, with equal outcomes -/
theorem C18_ids_step (cfg : SessionCfg α) (alpha : Alpha α) (px : Px α) (sched : List Int) (ev : SimEvent)
    {s s' : Session α} (h : eraseIdsS s = eraseIdsS s') :
    eraseIdsS (s.step cfg alpha px sched ev).1 = eraseIdsS (s'.step cfg alpha px sched ev).1 ∧
    (s.step cfg alpha px sched ev).2 = (s'.step cfg alpha px sched ev).2 := by
  -- each of the four stages of the loop body is blind to ids
  rw [Sess.step_stages, Sess.step_stages]
  exact (eqStage_blind cfg ev).andThen ((rebStage_blind cfg alpha px sched ev.time).andThen
    ((sigStage_blind cfg px ev).andThen (updStage_blind px ev s s' h)))

/-- the run: two sessions that are equal after forgetting the ids stay equal after forgetting the
ids along any event list, and stop with the same error at the same time. -/
theorem C18_ids_run (cfg : SessionCfg α) (alpha : Alpha α) (px : Px α) (sched : List Int) (evs : List SimEvent)
    {s s' : Session α} (h : eraseIdsS s = eraseIdsS s') :
    eraseIdsS (Session.runEvents cfg alpha px sched s evs).1 =
      eraseIdsS (Session.runEvents cfg alpha px sched s' evs).1 ∧
    (Session.runEvents cfg alpha px sched s evs).2 = (Session.runEvents cfg alpha px sched s' evs).2 :=
  Sess.runEvents_rel (R := fun s s' => eraseIdsS s = eraseIdsS s') evs
    (fun _ _ ev _ h => C18_ids_step cfg alpha px sched ev h) s s' h

/-- what two sessions that are equal up to ids have in common: fills (the `Fill` record has no id), equity curve,
target allocations, signals, and the table getter -/
theorem C18_ids_observable {s s' : Session α} (h : eraseIdsS s = eraseIdsS s') (cfg : SessionCfg α) :
    s.fills = s'.fills ∧ s.equity = s'.equity ∧ s.allocations = s'.allocations ∧ s.signals = s'.signals ∧
    targetAllocationTable cfg s = targetAllocationTable cfg s' := by
  obtain ⟨_, hsig, hal, heq⟩ := (eraseIdsS_eq_iff s s').mp h
  refine ⟨?_, heq, hal, hsig, ?_⟩
  · rw [← fills_eraseIdsS s, h, fills_eraseIdsS]
  · unfold targetAllocationTable
    rw [heq, hal]

/-- Fills (without ids), equity curve, target allocations and the error of a run are independent of
the id stream: start the counter at any `n` or `m`. -/
theorem C18_ids (cfg : SessionCfg α) (alpha : Alpha α) (px : Px α) (sched : List Int) (evs : List SimEvent)
    (s : Session α) (n m : Nat) :
    let r := Session.runEvents cfg alpha px sched { s with nextId := n } evs
    let r' := Session.runEvents cfg alpha px sched { s with nextId := m } evs
    r.1.fills = r'.1.fills ∧ r.1.equity = r'.1.equity ∧ r.1.allocations = r'.1.allocations ∧ r.2 = r'.2 := by
  intro r r'
  obtain ⟨h1, h2⟩ := C18_ids_run cfg alpha px sched evs
    (s := { s with nextId := n }) (s' := { s with nextId := m }) rfl
  obtain ⟨h3, h4, h5, _⟩ := C18_ids_observable h1 cfg
  exact ⟨h3, h4, h5, h2⟩

/-- For the composed run, the observable `(fills without ids, equity curve, target
allocations, allocation table, error)` is the same for any two initial states that agree up to ids (in particular
for any two start values of the id counter), with the market view served directly or with every lookup answered from
one coherent memo table `tbl` (empty, left by an earlier session, or partially evicted; `pxVia` consults the same
`tbl` at every lookup, it does not thread the updated table). -/
theorem C18_independent (cfg : SessionCfg α) (alpha : Alpha α) (px : Px α) (sched : List Int)
    (evs : List SimEvent) {s s' : Session α} (h : eraseIdsS s = eraseIdsS s')
    (tbl : List ((Int × String) × Option α)) (hc : ∀ p ∈ tbl, p.2 = px p.1.1 p.1.2) :
    let r := Session.runEvents cfg alpha px sched s evs
    let r' := Session.runEvents cfg alpha (pxVia px tbl) sched s' evs
    r.1.fills = r'.1.fills ∧ r.1.equity = r'.1.equity ∧ r.1.allocations = r'.1.allocations ∧
    targetAllocationTable cfg r.1 = targetAllocationTable cfg r'.1 ∧ r.2 = r'.2 := by
  intro r r'
  have hr' : r' = Session.runEvents cfg alpha px sched s' evs := by
    simp only [r', C18_memo_view px tbl hc]
  obtain ⟨h1, h2⟩ := C18_ids_run cfg alpha px sched evs h
  obtain ⟨h3, h4, h5, _, h6⟩ := C18_ids_observable h1 cfg
  rw [hr']
  exact ⟨h3, h4, h5, h6, h2⟩

/-- `C18_independent` for two starts of the id counter -/
theorem C18_independent_nextId (cfg : SessionCfg α) (alpha : Alpha α) (px : Px α) (sched : List Int)
    (evs : List SimEvent) (s : Session α) (n m : Nat)
    (tbl : List ((Int × String) × Option α)) (hc : ∀ p ∈ tbl, p.2 = px p.1.1 p.1.2) :
    let r := Session.runEvents cfg alpha px sched { s with nextId := n } evs
    let r' := Session.runEvents cfg alpha (pxVia px tbl) sched { s with nextId := m } evs
    r.1.fills = r'.1.fills ∧ r.1.equity = r'.1.equity ∧ r.1.allocations = r'.1.allocations ∧
    targetAllocationTable cfg r.1 = targetAllocationTable cfg r'.1 ∧ r.2 = r'.2 :=
  C18_independent cfg alpha px sched evs (s := { s with nextId := n }) (s' := { s with nextId := m }) rfl tbl hc

/-- whole session, construction included: serving the market through a coherent memo table
gives literally the same result. -/
theorem C18_independent_run (cfg : SessionCfg α) (alpha : Alpha α) (px : Px α)
    (tbl : List ((Int × String) × Option α)) (hc : ∀ p ∈ tbl, p.2 = px p.1.1 p.1.2) :
    Session.run cfg alpha (pxVia px tbl) = Session.run cfg alpha px := by
  rw [C18_memo_view px tbl hc]

end Ids

/-! ## Non-vacuity -/

section ExamplesGeneric

/-- `C18_sorted`: two enumerations of the same set, with different order and multiplicity -/
example : sortDedup ["XOM", "SPY", "SPY", "AGG"] = sortDedup ["AGG", "XOM", "SPY"] :=
  C18_sorted_set (by intro a; simp only [List.mem_cons, List.not_mem_nil, or_self, or_comm, or_left_comm])

example : ["XOM", "SPY", "AGG"].Perm ["AGG", "XOM", "SPY"] ∧ ["XOM", "SPY", "AGG"] ≠ ["AGG", "XOM", "SPY"] := by
  refine ⟨?_, by decide⟩
  exact ((List.Perm.swap "SPY" "XOM" ["AGG"]).trans ((List.Perm.swap "AGG" "XOM" []).cons "SPY")).trans
    (List.Perm.swap "AGG" "SPY" ["XOM"]) |>.trans ((List.Perm.swap "XOM" "SPY" []).cons "AGG")

/-- the value both sides of the first example take -/
example : sortDedup ["XOM", "SPY", "SPY", "AGG"] = ["AGG", "SPY", "XOM"] := by
  simp [sortDedup, List.mergeSort]; decide

/-- `C18_sorted_assets`: holdings dictionary and universe enumerated in two different orders -/
example : fullAssetList [("XOM", 7), ("SPY", -5)] ["SPY", "AGG"] = fullAssetList [("SPY", -5), ("XOM", 7)] ["AGG", "SPY"] :=
  C18_sorted_assets (List.Perm.swap _ _ _) (List.Perm.swap _ _ _)

/-- `C18_orders_sorted`: the hypotheses hold for permuted dictionaries, and the order list is the sorted one -/
example : rebalanceOrders [("SPY", 10), ("AGG", 5)] [("XOM", 7), ("SPY", -5)] =
    rebalanceOrders [("AGG", 5), ("SPY", 10)] [("SPY", -5), ("XOM", 7)] :=
  (C18_orders_sorted (List.Perm.swap _ _ _) (by simp) (List.Perm.swap _ _ _) (by simp)).1

example : rebalanceOrders [("SPY", 10), ("AGG", 5)] [("XOM", 7), ("SPY", -5)] = [("AGG", 5), ("SPY", 15)] := by
  simp [rebalanceOrders, sortByKey, List.mergeSort, List.lookup]

/-- without distinct keys the hypothesis of `C18_sizer_order_sort` fails and so does the conclusion (stable sort) -/
example : sortByKey [("A", 1), ("A", 2)] ≠ sortByKey [("A", 2), ("A", 1)] := by
  simp [sortByKey, List.mergeSort]

end ExamplesGeneric

/-! the memo table at the driver's `Rat` carrier, on the shuffled file of C06 -/
section ExamplesRat

/-- a table left by an "earlier session": one entry for source 0, 14:30 of day 10, asset `"A"` -/
def exTbl18 : List (PxKey × Option Rat) := [((0, 10 * 86400 + 52200, "A"), some 100)]

theorem exTbl18_coherent : ∀ p ∈ exTbl18, p.2 = rawPx (fun _ => false) (fun _ _ => exFile) p.1 := by
  intro p hp
  simp only [exTbl18, List.mem_singleton] at hp
  subst hp
  show some 100 = barLookup false exFile (10 * 86400 + 52200)
  unfold barLookup; rw [exFrame_raw]; decide

/-- a hit and a miss on that table return the uncached values (theorem, not evaluation) -/
example : (cachedPx (fun _ => false) (fun _ _ => exFile) exTbl18 (0, 10 * 86400 + 52200, "A")).1 =
    barLookup false exFile (10 * 86400 + 52200) :=
  (C18_memo _ _ exTbl18 _ exTbl18_coherent).1

example : (cachedPx (fun _ => false) (fun _ _ => exFile) exTbl18 (0, 11 * 86400 + 75600, "A")).1 = some 210 := by
  rw [(C18_memo _ _ exTbl18 _ exTbl18_coherent).1]
  unfold barLookup; rw [exFrame_raw]; decide

/-- a sequence of lookups from the warm table and from the empty table serve the same values -/
example (ks : List PxKey) :
    (cachedSeq (rawPx (fun _ => false) (fun _ _ => exFile)) exTbl18 ks).1 =
      (cachedSeq (rawPx (fun _ => false) (fun _ _ => exFile)) [] ks).1 :=
  C18_memo_two_tables _ _ _ ks exTbl18_coherent (C06_memo_empty _)

/-- the tables themselves differ: the hidden state is really there -/
example : (cachedSeq (fun n : Nat => n * n) [(3, 9)] [3, 4]) = ([9, 16], [(4, 16), (3, 9)]) ∧
    (cachedSeq (fun n : Nat => n * n) [] [3, 4]) = ([9, 16], [(4, 16), (3, 9)]) ∧
    (cachedSeq (fun n : Nat => n * n) [(4, 16)] [3, 4]) = ([9, 16], [(3, 9), (4, 16)]) := by decide

/-- an incoherent table is excluded by the hypothesis, and would change the answer -/
example : (cachedSeq (fun n : Nat => n * n) [(3, 10)] [3]).1 ≠ [3].map (fun n : Nat => n * n) := by decide

/-- order ids at work: a funded broker, two orders at 14:30 on 1970-01-01 (a Thursday), every price 10 -/
def exB18 : Broker Rat :=
  { clock := 0, master := 0, fee := .zero, entries := [{ pf := { id := "000001", clock := 0, cash := 1000 } }] }
def exPx18 : Px Rat := fun _ _ => some 10

/-- the ids are stored in the fill log: the two id streams give different brokers -/
example : (executeOrders exPx18 52200 exB18 1 [("A", 5), ("B", -3)]).1.fillLog.map (·.2.orderId) = [1, 2] ∧
    (executeOrders exPx18 52200 exB18 100 [("A", 5), ("B", -3)]).1.fillLog.map (·.2.orderId) = [100, 101] ∧
    (executeOrders exPx18 52200 exB18 100 [("A", 5), ("B", -3)]).2.2 = none := by decide +kernel

/-- the two brokers of the previous example agree after `eraseIds` (`C18_ids_execute`) -/
example : eraseIds (executeOrders exPx18 52200 exB18 1 [("A", 5), ("B", -3)]).1 =
    eraseIds (executeOrders exPx18 52200 exB18 100 [("A", 5), ("B", -3)]).1 :=
  (C18_ids_execute exPx18 52200 rfl 1 100 _).1

example : (executeOrders exPx18 52200 exB18 100 [("A", 5), ("B", -3)]).1.fillLog.map
    (fun x => (x.2.asset, x.2.qty, x.2.price)) = [("A", 5, 10), ("B", -3, 10)] := by decide +kernel

/-- ids in a queue (exchange closed at midnight): submitted with id 7 or id 9 -/
example : ((exB18.submitOrder "000001" ⟨7, "A", 5⟩).1.entries.map (·.queue)) = [[⟨7, "A", 5⟩]] ∧
    ((exB18.submitOrder "000001" ⟨9, "A", 5⟩).1.entries.map (·.queue)) = [[⟨9, "A", 5⟩]] := by decide +kernel

/-- two sessions that differ in a queued id and in the counter satisfy the hypothesis of `C18_ids_run` -/
example : eraseIdsS ({ broker := (exB18.submitOrder "000001" ⟨7, "A", 5⟩).1, nextId := 8 } : Session Rat) =
    eraseIdsS { broker := (exB18.submitOrder "000001" ⟨9, "A", 5⟩).1, nextId := 10 } := by
  rw [eraseIdsS_eq_iff]
  exact ⟨(C18_ids_submit exB18 "000001" ⟨7, "A", 5⟩ 9).1, rfl, rfl, rfl⟩

end ExamplesRat

/-! the sizers and the signal buffers at the lawful field instance on `ℚ` -/
section ExamplesField
noncomputable local instance (priority := high) c18RatOps : NumOps ℚ := fieldNumOps ℚ
local instance (priority := high) c18RatLawful : LawfulNumOps ℚ := fieldNumOps_lawful ℚ

/-- `C18_sizer_order`: the recorded allocation of C09's example in reverse insertion order gives the same
target as computed there -/
example : dwSize (.zero) (1000 : ℚ) 0 exPrice [("GLD", 1), ("XOM", 0), ("SPY", 0), ("AGG", 3)] =
    .ok [("AGG", 75), ("GLD", 25), ("SPY", 0), ("XOM", 0)] := by
  rw [← (C18_sizer_order (.zero) (1000 : ℚ) 0 exPrice
    (w := [("AGG", 3), ("SPY", 0), ("XOM", 0), ("GLD", 1)]) (w' := [("GLD", 1), ("XOM", 0), ("SPY", 0), ("AGG", 3)])
    (List.reverse_perm [("GLD", 1), ("XOM", 0), ("SPY", 0), ("AGG", 3)]) (by simp)).1]
  exact exDw

/-- `C18_buffers`: a momentum signal tracking `"A"`; the universe gains `"B"` and `"C"`; every price is 1 -/
def exSig18 : Signal ℚ := Signal.new .momentum [1] ["A"]

/-- the two enumerations give different `assets` lists (the hidden order is really there) -/
example : (updateAssetsWith exSig18 ["B", "C"]).assets = ["A", "B", "C"] ∧
    (updateAssetsWith exSig18 ["C", "B"]).assets = ["A", "C", "B"] := ⟨rfl, rfl⟩

/-- the hypotheses of `C18_buffers` hold for them, so buffers, tracked set and outcome agree -/
example := C18_buffers (fun _ => (1 : ℚ)) exSig18 (List.Perm.swap "C" "B" [])
  (by simp) (fun _ _ => one_pos)

/-- the model's own enumeration is one of them -/
example : exSig18.updateAssets ["C", "A", "B", "C"] = updateAssetsWith exSig18 ["C", "B"] := by
  rw [C18_buffers_instance]
  simp [exSig18, Signal.new, List.eraseDups_cons]

end ExamplesField

end Qs
