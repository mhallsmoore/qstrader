import QsProofs.Lemmas.OrdersExample

/-!
# C05 — Fills use the current quote and charge exactly the fee model's commission

`_execute_order` prices a sell at the bid and anything else at the ask of the quote at the update, charges the fee
model on the consideration rounded half-even to an integer, and debits `price × qty + commission` from the one
portfolio. No hypothesis beyond a lawful carrier, except distinct portfolio ids (`WF`) for "no other cash moves".
-/

set_option linter.unusedSectionVars false

namespace Qs
open Num

section
variable {α : Type} [Field α] [LinearOrder α] [IsStrictOrderedRing α] [FloorRing α] [NumOps α] [LawfulNumOps α]

/-- **C05_fill** (no side condition). The transaction `_execute_order` builds exists iff the asset is quoted;
it is stamped with the broker clock, carries the order's asset, id and full quantity, is priced at the bid
for a sell (`qty < 0`) and at the ask otherwise, and its commission is the fee model applied to the
consideration `round(price × qty)`. (A zero-quantity order has direction `copysign(1, 0) = +1` and so is
priced at the ask.) -/
theorem C05_fill_general (b : Broker α) (q : Quotes α) (o : Order) (tx : Txn α) (h : b.makeTxn q o = .ok tx) :
    ∃ bid ask, q o.asset = some (bid, ask) ∧ tx.time = b.clock ∧
      tx.price = (if o.qty < 0 then bid else ask) ∧ tx.qty = o.qty ∧ tx.asset = o.asset ∧
      tx.orderId = o.id ∧
      tx.commission = b.fee.totalCost ((roundHalfEvenI (tx.price * (o.qty : α)) : Int) : α) := by
  obtain ⟨bid, ask, hq, rfl⟩ := makeTxn_ok h
  exact ⟨bid, ask, hq, rfl, rfl, rfl, rfl, rfl, by simp only [fillOf, ofInt_eq]⟩

/-- For a non-zero order: ask for a buy (`0 < qty`), bid for a sell. -/
theorem C05_fill (b : Broker α) (q : Quotes α) (o : Order) (tx : Txn α) (hq : o.qty ≠ 0)
    (h : b.makeTxn q o = .ok tx) :
    ∃ bid ask, q o.asset = some (bid, ask) ∧ tx.time = b.clock ∧
      tx.price = (if 0 < o.qty then ask else bid) ∧ tx.qty = o.qty ∧
      tx.commission = b.fee.totalCost ((roundHalfEvenI (tx.price * (o.qty : α)) : Int) : α) := by
  obtain ⟨bid, ask, h1, h2, h3, h4, _, _, h7⟩ := C05_fill_general _ _ _ _ h
  refine ⟨bid, ask, h1, h2, ?_, h4, h7⟩
  rw [h3]
  by_cases hneg : o.qty < 0
  · rw [if_pos hneg, if_neg (by omega)]
  · rw [if_neg hneg, if_pos (by omega)]

/-- **C05_fill**, missing quote: `_execute_order` raises `ValueError`. -/
theorem C05_fill_unquoted (b : Broker α) (q : Quotes α) (o : Order) (h : q o.asset = none) :
    b.makeTxn q o = .error .value := by
  rw [makeTxn_eq, h]

theorem C05_fill_quoted (b : Broker α) (q : Quotes α) (o : Order) (bid ask : α) (h : q o.asset = some (bid, ask)) :
    ∃ tx, b.makeTxn q o = .ok tx := by
  rw [makeTxn_eq, h]; exact ⟨_, rfl⟩

theorem C05_zero (x : α) : (FeeModel.zero : FeeModel α).totalCost x = 0 := by
  rw [totalCost_eq]; exact zero_mul _

theorem C05_percent (c τ x : α) (hc : 0 ≤ c) (hτ : 0 ≤ τ) :
    (FeeModel.percent c τ).totalCost x = (c + τ) * |x| ∧ 0 ≤ (FeeModel.percent c τ).totalCost x ∧
    (FeeModel.percent c τ).totalCost (-x) = (FeeModel.percent c τ).totalCost x :=
  ⟨totalCost_eq _ x, by rw [totalCost_eq]; exact mul_nonneg (feeRate_nonneg ⟨hc, hτ⟩) (abs_nonneg x),
    totalCost_neg _ x⟩

/-- `roundHalfEvenI` on the field carrier is round-to-nearest, ties to even, and odd. -/
theorem C05_round (x : α) :
    |((roundHalfEvenI x : Int) : α) - x| ≤ 1 / 2 ∧
    (∀ n : Int, |(n : α) - x| < 1 / 2 → roundHalfEvenI x = n) ∧
    (|((roundHalfEvenI x : Int) : α) - x| = 1 / 2 → roundHalfEvenI x % 2 = 0) ∧
    roundHalfEvenI (-x) = - roundHalfEvenI x :=
  ⟨rhe_dist x, rhe_nearest x, rhe_tie x, rhe_neg x⟩

/-- a buy and a sell of the same size at the same price pay the same commission -/
theorem C05_symmetric (f : FeeModel α) (price : α) (n : Int) :
    f.totalCost ((roundHalfEvenI (price * ((-n : Int) : α)) : Int) : α)
      = f.totalCost ((roundHalfEvenI (price * (n : α)) : Int) : α) := by
  have : price * ((-n : Int) : α) = -(price * (n : α)) := by push_cast; ring
  rw [this, rhe_neg]
  push_cast
  exact totalCost_neg f _

/-- At `applyTxn`: an accepted transaction debits exactly `price × qty + commission` from the
cash of portfolio `pid`; no other portfolio's cash and not the master account changes. -/
theorem C05_debit (b : Broker α) (hwf : WF b) (pid : String) (t : Txn α) (h : (b.applyTxn pid t).2 = none) :
    (b.applyTxn pid t).1.entries.map (fun e => (e.pf.id, e.pf.cash))
      = b.entries.map (fun e => (e.pf.id,
          if e.pf.id = pid then e.pf.cash - (t.price * (t.qty : α) + t.commission) else e.pf.cash)) ∧
    (b.applyTxn pid t).1.master = b.master ∧
    (b.applyTxn pid t).1.cashOf pid = (b.cashOf pid).map (fun c => c - (t.price * (t.qty : α) + t.commission)) ∧
    ∀ p, p ≠ pid → (b.applyTxn pid t).1.cashOf p = b.cashOf p := by
  obtain ⟨h1, h2⟩ := applyTxn_cash b hwf pid t h
  refine ⟨h1, h2, ?_, ?_⟩
  · rw [applyTxn_cashOf b hwf pid t h]; simp
  · intro p hp; rw [applyTxn_cashOf b hwf pid t h]; simp [hp]

/-- **C05_debit** (`executeOrder`). A successful execution debits the portfolio by the fill's
`price × qty + commission`, where the fill is the transaction of `C05_fill`, and logs that fill. -/
theorem C05_debit_exec (b : Broker α) (hwf : WF b) (q : Quotes α) (pid : String) (o : Order)
    (h : (b.executeOrder q pid o).2 = none) :
    ∃ tx, b.makeTxn q o = .ok tx ∧
      (b.executeOrder q pid o).1.fillLog = b.fillLog ++ [(pid, tx)] ∧
      (b.executeOrder q pid o).1.entries.map (fun e => (e.pf.id, e.pf.cash))
        = b.entries.map (fun e => (e.pf.id,
            if e.pf.id = pid then e.pf.cash - (tx.price * (o.qty : α) + tx.commission) else e.pf.cash)) ∧
      (b.executeOrder q pid o).1.master = b.master := by
  obtain ⟨tx, htx, hlog⟩ := executeOrder_log b q pid o h
  have hqty : tx.qty = o.qty := by
    obtain ⟨_, _, _, _, _, h4, _⟩ := C05_fill_general _ _ _ _ htx; exact h4
  have he : b.executeOrder q pid o = b.applyTxn pid tx := by simp only [Broker.executeOrder, htx]
  rw [he] at h ⊢
  obtain ⟨h1, h2⟩ := applyTxn_cash b hwf pid tx h
  rw [hqty] at h1
  refine ⟨tx, htx, ?_, h1, h2⟩
  rw [← he]; exact hlog

/-- **C05 at the level of `update`.** Every transaction logged by an update in exchange hours that returns
normally is stamped with the update time `t`, priced at the quote of that update (bid for a sell, ask
otherwise), for the full quantity, and carries the fee model's commission on the rounded consideration. -/
theorem C05_update_fills (σ : Broker α) (t : Int) (q : Quotes α) (hopen : isOpen t = true)
    (hret : (σ.update t q).2 = none) :
    ∃ fills : List (String × Txn α), (σ.update t q).1.fillLog = σ.fillLog ++ fills ∧
      List.Forall₂ (fun (x : String × Order) (f : String × Txn α) =>
        f.1 = x.1 ∧ ∃ bid ask, q x.2.asset = some (bid, ask) ∧ f.2.time = t ∧
          f.2.price = (if x.2.qty < 0 then bid else ask) ∧ f.2.qty = x.2.qty ∧ f.2.asset = x.2.asset ∧
          f.2.orderId = x.2.id ∧
          f.2.commission = σ.fee.totalCost ((roundHalfEvenI (f.2.price * (x.2.qty : α)) : Int) : α))
        (sellsFirst (fun (x : String × Order) => x.2.isSell) σ.drained) fills := by
  obtain ⟨⟨fills, hlog, hf2⟩, _⟩ := update_open_spec σ t q hopen hret
  refine ⟨fills, hlog, hf2.imp ?_⟩
  intro x f ⟨h1, h2⟩
  exact ⟨h1, C05_fill_general _ _ _ _ h2⟩

end

/-! ## Non-vacuity at `α := ℚ` (`fieldNumOps ℚ`), on the concrete broker `Ex.σ₀`
(percentage fee model 0.1 % + 0.5 %; quotes `A ↦ (99, 101)`, `B ↦ (49, 51)`; queued: buy 10 `A`, sell 5 `B`) -/

section examples
open Ex

/-- the buy of 10 `A` is priced at the ask 101; consideration 1010; commission 0.6 % of it = 6.06 -/
theorem Ex.fill_buyA (tx : Txn ℚ) (h : σ₀.makeTxn quotes oBuyA = .ok tx) :
    tx.price = 101 ∧ tx.time = tClosed ∧ tx.commission = 606 / 100 := by
  obtain ⟨bid, ask, hq, ht, hp, _, hc⟩ := C05_fill σ₀ quotes oBuyA tx (by decide) h
  have hq' : quotes oBuyA.asset = some (99, 101) := rfl
  rw [hq'] at hq
  simp only [Option.some.injEq, Prod.mk.injEq] at hq
  obtain ⟨rfl, rfl⟩ := hq
  rw [if_pos (by decide)] at hp
  refine ⟨hp, ht, ?_⟩
  have hr : roundHalfEvenI ((101 : ℚ) * ((10 : Int) : ℚ)) = 1010 :=
    (C05_round _).2.1 1010 (by decide +kernel)
  rw [hc, hp]
  show (FeeModel.percent (1 / 1000 : ℚ) (5 / 1000)).totalCost
    ((roundHalfEvenI ((101 : ℚ) * ((10 : Int) : ℚ)) : Int) : ℚ) = 606 / 100
  rw [hr, (C05_percent _ _ _ (by decide +kernel) (by decide +kernel)).1]
  decide +kernel

/-- the sell of 5 `B` is priced at the bid 49; consideration −245; commission 0.6 % of 245 = 1.47 -/
theorem Ex.fill_sellB (tx : Txn ℚ) (h : σ₀.makeTxn quotes oSellB = .ok tx) :
    tx.price = 49 ∧ tx.commission = 147 / 100 := by
  obtain ⟨bid, ask, hq, _, hp, _, hc⟩ := C05_fill σ₀ quotes oSellB tx (by decide) h
  have hq' : quotes oSellB.asset = some (49, 51) := rfl
  rw [hq'] at hq
  simp only [Option.some.injEq, Prod.mk.injEq] at hq
  obtain ⟨rfl, rfl⟩ := hq
  rw [if_neg (by decide)] at hp
  refine ⟨hp, ?_⟩
  have hr : roundHalfEvenI ((49 : ℚ) * ((-5 : Int) : ℚ)) = -245 :=
    (C05_round _).2.1 (-245) (by decide +kernel)
  rw [hc, hp]
  show (FeeModel.percent (1 / 1000 : ℚ) (5 / 1000)).totalCost
    ((roundHalfEvenI ((49 : ℚ) * ((-5 : Int) : ℚ)) : Int) : ℚ) = 147 / 100
  rw [hr, (C05_percent _ _ _ (by decide +kernel) (by decide +kernel)).1]
  decide +kernel

-- C05_fill: both orders yield a transaction; buy at the ask, sell at the bid, bid ≠ ask
example : (∃ tx, σ₀.makeTxn quotes oBuyA = .ok tx ∧ tx.price = 101 ∧ tx.commission = 606 / 100) ∧
    (∃ tx, σ₀.makeTxn quotes oSellB = .ok tx ∧ tx.price = 49 ∧ tx.commission = 147 / 100) ∧
    σ₀.makeTxn quotes ⟨9, "C", 1⟩ = .error .value := by
  refine ⟨?_, ?_, C05_fill_unquoted σ₀ quotes ⟨9, "C", 1⟩ rfl⟩
  · obtain ⟨tx, h⟩ := C05_fill_quoted σ₀ quotes oBuyA 99 101 rfl
    obtain ⟨hp, _, hc⟩ := Ex.fill_buyA tx h
    exact ⟨tx, h, hp, hc⟩
  · obtain ⟨tx, h⟩ := C05_fill_quoted σ₀ quotes oSellB 49 51 rfl
    exact ⟨tx, h, Ex.fill_sellB tx h⟩

-- C05_round: a tie goes to the even neighbour, in both directions
example : roundHalfEvenI (5 / 2 : ℚ) = 2 ∧ roundHalfEvenI (7 / 2 : ℚ) = 4 ∧ roundHalfEvenI (-5 / 2 : ℚ) = -2 := by
  have h52 : roundHalfEvenI (5 / 2 : ℚ) = 2 := by decide +kernel
  have h72 : roundHalfEvenI (7 / 2 : ℚ) = 4 := by decide +kernel
  refine ⟨h52, h72, ?_⟩
  have : (-5 / 2 : ℚ) = -(5 / 2) := by norm_num
  obtain ⟨_, _, _, hodd⟩ := C05_round (5 / 2 : ℚ)
  rw [this, hodd, h52]

-- C05_debit: executing the buy of 10 `A` for `p1` returns normally, debits 1010 + 6.06 from `p1` only
example : (σ₀.executeOrder quotes "p1" oBuyA).2 = none ∧
    (σ₀.executeOrder quotes "p1" oBuyA).1.entries.map (fun e => (e.pf.id, e.pf.cash))
      = [("p1", 10000 - (1010 + 606 / 100)), ("p2", 500)] ∧
    (σ₀.executeOrder quotes "p1" oBuyA).1.master = 0 := by
  have hret := (executeOrder_ok σ₀ quotes "p1" oBuyA clocksOK (by decide) ⟨99, 101, rfl⟩ quotesPos).1
  obtain ⟨tx, htx, _, hcash, hm⟩ := C05_debit_exec σ₀ wf quotes "p1" oBuyA hret
  obtain ⟨hp, _, hc⟩ := Ex.fill_buyA tx htx
  refine ⟨hret, ?_, hm⟩
  rw [hcash, hp, hc]
  decide +kernel

end examples
end Qs
