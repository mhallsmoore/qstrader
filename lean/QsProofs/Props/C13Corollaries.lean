import QsProofs.Props.C13

/-!
# C13 — the schedules against each other, against the range and against the clock

Every weekly and every end-of-month instant is a daily instant, for any `start`, `end` (the daily schedule normalises both
ends to midnight and so reaches at least as far); every instant lies on a date of `[dayOf start, dayOf end]`.
The buy-and-hold instant coincides with a clock event of `simEvents start end false false` iff the start's time of day is
14:30 or 21:00 and the instant is `≤ end` (`C13_bh_meets`): a buy-and-hold session started at, say, 00:00 never
rebalances (`C13_bh_misses`).  The end-of-month schedule has exactly one instant per month whose last business day lies in
the range (the `C13_eom_*` statements rest on `Cal.mem_eom_month`).
-/

namespace Qs.C13
open Qs.Cal

/-! ## weekly ⊆ daily, end-of-month ⊆ daily -/

/-- every weekly instant is a daily instant (any `start`, `end`) -/
theorem C13_weekly_subset_daily (start end_ : Int) (s : String) (pre : Bool) (l : List Int)
    (h : weeklyRebalances start end_ s pre = .ok l) : ∀ x ∈ l, x ∈ dailyRebalances start end_ pre := by
  obtain ⟨k, rfl, hk⟩ := weeklyRebalances_ok h
  intro x hx
  rw [dailyRebalances_eq]
  exact sched_subset (fun d _ => hk d) (hiOf_le start end_) hx

/-- `C13_weekly_subset_daily` restated with the time-of-day precondition of `C13_weekly` -/
theorem C13_weekly_subset_daily' (start end_ : Int) (s : String) (pre : Bool) (l : List Int)
    (_htod : todOf start ≤ todOf end_) (h : weeklyRebalances start end_ s pre = .ok l) :
    ∀ x ∈ l, x ∈ dailyRebalances start end_ pre :=
  C13_weekly_subset_daily start end_ s pre l h

theorem C13_eom_subset_daily (start end_ : Int) (pre : Bool) (h0 : M0 ≤ dayOf start) :
    ∀ x ∈ eomRebalances start end_ pre, x ∈ dailyRebalances start end_ pre := by
  intro x hx
  rw [eomRebalances_eq start end_ pre h0] at hx
  rw [dailyRebalances_eq]
  exact sched_subset (fun d hd => isBDay_of_isBMonthEnd (by omega)) (hiOf_le start end_) hx

/-! ## every instant lies in the range -/

theorem C13_in_range_weekly (start end_ : Int) (s : String) (pre : Bool) (l : List Int)
    (h : weeklyRebalances start end_ s pre = .ok l) (x : Int) (hx : x ∈ l) :
    dayOf start ≤ dayOf x ∧ dayOf x ≤ dayOf end_ ∧ dayOf x * 86400 + todOf start ≤ end_ := by
  obtain ⟨k, rfl, _⟩ := weeklyRebalances_ok h
  exact sched_in_range hx

theorem C13_in_range_daily (start end_ : Int) (pre : Bool) (x : Int) (hx : x ∈ dailyRebalances start end_ pre) :
    dayOf start ≤ dayOf x ∧ dayOf x ≤ dayOf end_ := by
  rw [dailyRebalances_eq] at hx
  have := dayOf_of_mem_sched hx; exact ⟨this.1, this.2.1⟩

theorem C13_in_range_eom (start end_ : Int) (pre : Bool) (h0 : M0 ≤ dayOf start) (x : Int)
    (hx : x ∈ eomRebalances start end_ pre) :
    dayOf start ≤ dayOf x ∧ dayOf x ≤ dayOf end_ ∧ dayOf x * 86400 + todOf start ≤ end_ := by
  rw [eomRebalances_eq start end_ pre h0] at hx
  exact sched_in_range hx

/-- every weekly / daily / end-of-month instant lies on a date of the range -/
theorem C13_in_range (start end_ : Int) (s : String) (pre : Bool) (x : Int)
    (hx : (∃ l, weeklyRebalances start end_ s pre = .ok l ∧ x ∈ l) ∨ x ∈ dailyRebalances start end_ pre ∨
      (M0 ≤ dayOf start ∧ x ∈ eomRebalances start end_ pre)) :
    dayOf start ≤ dayOf x ∧ dayOf x ≤ dayOf end_ := by
  rcases hx with ⟨l, hl, hx⟩ | hx | ⟨h0, hx⟩
  · have := C13_in_range_weekly start end_ s pre l hl x hx; exact ⟨this.1, this.2.1⟩
  · exact C13_in_range_daily start end_ pre x hx
  · have := C13_in_range_eom start end_ pre h0 x hx; exact ⟨this.1, this.2.1⟩

/-! ## buy and hold against the clock -/

/-- For `start ≤ end`, the buy-and-hold instant `x` is
the time of some event of the simulation clock iff the start's time of day is 14:30 or 21:00 and `x ≤ end`. -/
theorem C13_bh_meets (start end_ : Int) (hle : start ≤ end_) (x : Int) (hx : x ∈ buyAndHold start) :
    (∃ evs, simEvents start end_ false false = .ok evs ∧ ∃ e ∈ evs, e.time = x) ↔
    (todOf start = OPEN ∨ todOf start = CLOSE) ∧ x ≤ end_ := by
  obtain ⟨dx, hbh, hdx, hbd, _⟩ := buyAndHold_form start
  rw [hbh, List.mem_singleton] at hx
  subst hx
  have htod : 0 ≤ todOf start ∧ todOf start < 86400 := by unfold todOf; omega
  constructor
  · rintro ⟨evs, hev, e, he, het⟩
    obtain ⟨d, _, h2, _, he'⟩ := mem_clock_ff hev he
    have h2' := (hiOf_spec start end_ d).2 h2
    have ht : e.time = d * 86400 + 52200 ∨ e.time = d * 86400 + 75600 := by
      rcases he' with rfl | rfl
      · exact Or.inl rfl
      · exact Or.inr rfl
    -- two instants with times of day in `[0, 86400)` agree only on the same date
    unfold OPEN CLOSE
    have : d = dx := by omega
    subst this
    exact ⟨by omega, h2'⟩
  · rintro ⟨ht, hxe⟩
    have h2 := (hiOf_spec start end_ dx).1 hxe
    rcases ht with ht | ht
    · obtain ⟨evs, hev, e, he, h, _⟩ := clock_event_at start end_ false false hle true ht dx hdx hbd h2
      exact ⟨evs, hev, e, he, h⟩
    · obtain ⟨evs, hev, e, he, h, _⟩ := clock_event_at start end_ false false hle false ht dx hdx hbd h2
      exact ⟨evs, hev, e, he, h⟩

/-- The documented usage: `start ≤ end`, the start on a business day at 14:30 or 21:00: the
buy-and-hold schedule is `[start]`, and `start` is the time of the market-open (resp. market-close) event of the
start day. -/
theorem C13_bh_meets_bday (start end_ : Int) (hle : start ≤ end_) (hb : isBDay (dayOf start) = true)
    (ht : todOf start = OPEN ∨ todOf start = CLOSE) :
    buyAndHold start = [start] ∧
    ∃ evs, simEvents start end_ false false = .ok evs ∧
      ∃ e ∈ evs, e.time = start ∧ dayOf e.time = dayOf start ∧
        e.kind = (if todOf start = OPEN then EvKind.marketOpen else EvKind.marketClose) := by
  refine ⟨C13_bh_bday start hb, ?_⟩
  have hst : dayOf start * 86400 + todOf start = start := by unfold dayOf todOf; omega
  have h2 : dayOf start ≤ hiOf start end_ := (hiOf_spec start end_ (dayOf start)).1 (by rw [hst]; exact hle)
  rcases ht with ht | ht
  · obtain ⟨evs, hev, e, he, h, hk⟩ := clock_event_at start end_ false false hle true ht _ (Int.le_refl _) hb h2
    rw [hst] at h
    exact ⟨evs, hev, e, he, h, by rw [h], by rw [hk, if_pos ht]; rfl⟩
  · obtain ⟨evs, hev, e, he, h, hk⟩ := clock_event_at start end_ false false hle false ht _ (Int.le_refl _) hb h2
    rw [hst] at h
    exact ⟨evs, hev, e, he, h, by rw [h], by rw [hk, if_neg (show ¬ todOf start = OPEN by rw [ht]; decide)]; rfl⟩

/-- With a start time of day other than 14:30 and 21:00 the buy-and-hold
instant coincides with NO event of the clock (any `end`): such a session never rebalances. -/
theorem C13_bh_misses (start end_ : Int) (ht : todOf start ≠ OPEN ∧ todOf start ≠ CLOSE)
    (evs : List SimEvent) (hev : simEvents start end_ false false = .ok evs) :
    ∀ x ∈ buyAndHold start, ∀ e ∈ evs, e.time ≠ x := by
  intro x hx e he heq
  have hle : start ≤ end_ := (simEvents_ok_iff.1 hev).1
  exact absurd ((C13_bh_meets start end_ hle x hx).1 ⟨evs, hev, e, he, heq⟩).1 (by
    rintro (h | h)
    · exact ht.1 h
    · exact ht.2 h)

/-! ## end of month: one instant per month -/

theorem C13_eom_is_last (start end_ : Int) (pre : Bool) (h0 : M0 ≤ dayOf start) (x : Int)
    (hx : x ∈ eomRebalances start end_ pre) :
    x = stamp pre (lastBDayOfMonth (findMonth (dayOf x)).1 (monthStart (findMonth (dayOf x)).1)) :=
  ((mem_eom_month start end_ pre h0 _ x).1 ⟨hx, rfl⟩).1

theorem C13_eom_distinct_months (start end_ : Int) (pre : Bool) (h0 : M0 ≤ dayOf start) (x y : Int)
    (hx : x ∈ eomRebalances start end_ pre) (hy : y ∈ eomRebalances start end_ pre) (hne : x ≠ y) :
    (findMonth (dayOf x)).1 ≠ (findMonth (dayOf y)).1 := by
  intro hm
  have ex := C13_eom_is_last start end_ pre h0 x hx
  rw [hm, ← C13_eom_is_last start end_ pre h0 y hy] at ex
  exact hne ex

/-- a month `k` whose last business day `L` lies in the range (`dayOf start ≤ L`, and `L` at the start's time of
day is `≤ end`) contributes exactly one instant: `stamp pre L` is scheduled, lies in month `k`, and is the only
scheduled instant of month `k`. -/
theorem C13_eom_month_unique (start end_ : Int) (pre : Bool) (h0 : M0 ≤ dayOf start) (k : Nat)
    (hlo : dayOf start ≤ lastBDayOfMonth k (monthStart k))
    (hhi : lastBDayOfMonth k (monthStart k) * 86400 + todOf start ≤ end_) :
    stamp pre (lastBDayOfMonth k (monthStart k)) ∈ eomRebalances start end_ pre ∧
    (findMonth (dayOf (stamp pre (lastBDayOfMonth k (monthStart k))))).1 = k ∧
    ∀ y ∈ eomRebalances start end_ pre, (findMonth (dayOf y)).1 = k →
      y = stamp pre (lastBDayOfMonth k (monthStart k)) :=
  have h := (mem_eom_month start end_ pre h0 k _).2 ⟨rfl, hlo, (hiOf_spec start end_ _).1 hhi⟩
  ⟨h.1, h.2, fun y hy hm => ((mem_eom_month start end_ pre h0 k y).1 ⟨hy, hm⟩).1⟩

/-- Distinct instants lie in different months; a month contributes an
instant iff its last business day lies in the range, and then exactly that one.  (With `todOf start ≤ todOf end`
the condition `L * 86400 + todOf start ≤ end` is `L ≤ dayOf end`.) -/
theorem C13_eom_one_per_month (start end_ : Int) (pre : Bool) (h0 : M0 ≤ dayOf start)
    (htod : todOf start ≤ todOf end_) :
    (∀ x ∈ eomRebalances start end_ pre, ∀ y ∈ eomRebalances start end_ pre, x ≠ y →
      (findMonth (dayOf x)).1 ≠ (findMonth (dayOf y)).1) ∧
    (∀ k : Nat, (∃ x ∈ eomRebalances start end_ pre, (findMonth (dayOf x)).1 = k) ↔
      (dayOf start ≤ lastBDayOfMonth k (monthStart k) ∧ lastBDayOfMonth k (monthStart k) ≤ dayOf end_)) ∧
    (∀ k : Nat, dayOf start ≤ lastBDayOfMonth k (monthStart k) → lastBDayOfMonth k (monthStart k) ≤ dayOf end_ →
      ∃ x ∈ eomRebalances start end_ pre, (findMonth (dayOf x)).1 = k ∧
        ∀ y ∈ eomRebalances start end_ pre, (findMonth (dayOf y)).1 = k → y = x) := by
  have hm := mem_eom_month start end_ pre h0
  rw [hiOf_eq start end_ htod] at hm
  refine ⟨fun x hx y hy hne => C13_eom_distinct_months start end_ pre h0 x y hx hy hne, fun k => ⟨?_, ?_⟩, ?_⟩
  · rintro ⟨x, hx, hk⟩
    exact ((hm k x).1 ⟨hx, hk⟩).2
  · intro h
    have := (hm k _).2 ⟨rfl, h⟩
    exact ⟨_, this.1, this.2⟩
  · intro k h1 h2
    obtain ⟨a, b, c⟩ := C13_eom_month_unique start end_ pre h0 k h1
      ((hiOf_spec start end_ _).2 (by rw [hiOf_eq start end_ htod]; exact h2))
    exact ⟨_, a, b, c⟩

/-! ## Non-vacuity -/

section Examples

/-- 2020-02-24 (Mon, day 18316) 09:00 … 2020-03-31 (Tue, day 18352) 17:00: the Wednesdays and the two business
month ends are daily instants; hypotheses of the subset lemmas hold -/
example :
    let start : Int := 18316 * 86400 + 32400
    let end_ : Int := 18352 * 86400 + 61200
    todOf start ≤ todOf end_ ∧ M0 ≤ dayOf start ∧
    eomRebalances start end_ false = [18320 * 86400 + 75600, 18352 * 86400 + 75600] ∧
    (18320 * 86400 + 75600 ∈ dailyRebalances start end_ false) ∧
    (18352 * 86400 + 75600 ∈ dailyRebalances start end_ false) ∧
    (18318 * 86400 + 75600 ∈ dailyRebalances start end_ false) ∧
    -- the two instants lie in February (month 5041) and March (month 5042) 2020
    (findMonth (dayOf (18320 * 86400 + 75600))).1 = 5041 ∧ (findMonth (dayOf (18352 * 86400 + 75600))).1 = 5042 ∧
    lastBDayOfMonth (findMonth 18320).1 (findMonth 18320).2 = 18320 ∧ lastBDayOfMonth (findMonth 18352).1 (findMonth 18352).2 = 18352 := by
  refine ⟨by decide, by decide, by rw [eomRebalances, bmeRangeDays_closed 5041] <;> decide,
    by decide +kernel, by decide +kernel, by decide +kernel,
    by rw [findMonth_closed 5041] <;> decide, by rw [findMonth_closed 5042] <;> decide,
    by rw [findMonth_closed 5041] <;> decide, by rw [findMonth_closed 5042] <;> decide⟩

/-- `C13_weekly_subset_daily` / `C13_in_range_weekly` applied through the public function -/
example : ∃ l, weeklyRebalances (18316 * 86400 + 32400) (18330 * 86400 + 61200) "wed" false = .ok l ∧
    l = [18318 * 86400 + 75600, 18325 * 86400 + 75600] ∧
    (∀ x ∈ l, x ∈ dailyRebalances (18316 * 86400 + 32400) (18330 * 86400 + 61200) false) ∧
    (∀ x ∈ l, dayOf (18316 * 86400 + 32400) ≤ dayOf x ∧ dayOf x ≤ dayOf (18330 * 86400 + 61200)) := by
  have hp : parseWeekday "wed" = some 2 := by decide +kernel
  have hl := C13_weekly _ _ "wed" 2 false (by decide : todOf (18316 * 86400 + 32400) ≤ todOf (18330 * 86400 + 61200)) hp
  refine ⟨_, hl, by rfl, C13_weekly_subset_daily _ _ _ _ _ hl, fun x hx => ?_⟩
  have := C13_in_range_weekly _ _ _ _ _ hl x hx
  exact ⟨this.1, this.2.1⟩

/-- buy and hold started Monday 2021-01-04 14:30 (day 18631): hypotheses of `C13_bh_meets_bday` hold and the
schedule is the first open of the clock -/
example :
    let start : Int := 18631 * 86400 + 52200
    let end_ : Int := 18632 * 86400 + 52200
    start ≤ end_ ∧ isBDay (dayOf start) = true ∧ todOf start = OPEN ∧ buyAndHold start = [start] ∧
    simEvents start end_ false false = .ok
      [⟨start, .marketOpen⟩, ⟨18631 * 86400 + 75600, .marketClose⟩,
       ⟨18632 * 86400 + 52200, .marketOpen⟩, ⟨18632 * 86400 + 75600, .marketClose⟩] := by
  refine ⟨by decide, by decide, by decide, by rfl, by rfl⟩

/-- the same session started at 00:00: hypotheses of `C13_bh_misses` hold; the schedule `[start]` is disjoint from
the clock's event times -/
example :
    let start : Int := 18631 * 86400
    let end_ : Int := 18632 * 86400
    todOf start ≠ OPEN ∧ todOf start ≠ CLOSE ∧ buyAndHold start = [start] ∧
    simEvents start end_ false false = .ok
      [⟨18631 * 86400 + 52200, .marketOpen⟩, ⟨18631 * 86400 + 75600, .marketClose⟩,
       ⟨18632 * 86400 + 52200, .marketOpen⟩, ⟨18632 * 86400 + 75600, .marketClose⟩] := by
  refine ⟨by decide, by decide, by rfl, by rfl⟩

/-- a Saturday 14:30 start (2020-02-29, day 18321) with the end on the same day: `x ≤ end` fails (the instant is
Monday 14:30) and the clock is empty — the second conjunct of `C13_bh_meets` matters -/
example :
    let start : Int := 18321 * 86400 + 52200
    let end_ : Int := 18321 * 86400 + 60000
    start ≤ end_ ∧ todOf start = OPEN ∧ buyAndHold start = [18323 * 86400 + 52200] ∧
    ¬ (18323 * 86400 + 52200 ≤ end_) ∧ simEvents start end_ false false = .ok [] := by
  refine ⟨by decide, by decide, by rfl, by decide, by rfl⟩

end Examples

end Qs.C13
