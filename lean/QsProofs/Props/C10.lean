import QsProofs.Lemmas.Sizer
import Mathlib.Data.Rat.Floor
import Mathlib.Tactic.NormNum

/-!
# C10 — Long-only sizing never budgets more than the cash-buffered equity

For any non-negative weights, positive prices, positive equity, cash buffer in [0,1] and fee rates, each
target quantity is a non-negative whole number whose cost plus estimated fees at the sizing price does
not exceed the asset's normalised share of (1 − buffer) × equity while one more share would, so the whole
target costs at most (1 − buffer) × equity.  A negative weight, a buffer outside [0,1] or an unavailable
(NaN) price is rejected with an error, and all-zero weights give an all-zero target.

All theorems are about `Qs.dwSize`, `Qs.dwCheckBuffer` of `QsModel/Sizer.lean`.

Notation: `S = Σ wᵢ` is `(w.map (·.2)).sum`; the allocation of asset `a` with weight `wa` is
`A = E * (1 - b) * (wa / S)`; the total fee rate is `feeRate fee` (`c + τ` for `FeeModel.percent c τ`, `0` for
`FeeModel.zero`; `QsProofs/Lemmas/FeeModel.lean`, `totalCost_eq : fee.totalCost x = feeRate fee * |x|`);
`FeeNonneg fee` says both rates are `≥ 0`.  A NaN price is `price a = none`.

Two hypotheses are forced by the proofs and are known findings about the real code:
* `tiny < S` (`np.isclose(S, 0)` is false).  With `0 < S ≤ tiny` the weights are used unnormalised:
  `C10_floor_fails_tiny_sum`.
* `feeRate fee ≤ 1`.  With a total fee rate above 100 % the quantity is negative: `C10_neg_qty_fee_gt_one`.

`C10_floor` needs neither `0 ≤ b` nor non-negative fee rates (only `b ≤ 1`, `feeRate fee ≤ 1`); `C10_budget`
needs `0 ≤ feeRate fee` in addition.  `dwSize` itself never looks at the sign of `b`: the range check is
`dwCheckBuffer` (constructor time), see `C10_reject_buffer`.  The hypothesis `hw` (no negative weight) of `C10_floor`,
`C10_budget` and `C10_reject_price` is not used: success of the call already implies it (`dwSize_ok_iff`), and an
unpriced key is an error whatever the weights; `0 ≤ E` would do for `0 < E` (`dwSize_floor`, `dwSize_budget`).
-/

set_option linter.unusedSectionVars false
set_option linter.unusedVariables false  -- `hw`, see above

namespace Qs
open NumOps

section
variable {α : Type} [Field α] [LinearOrder α] [IsStrictOrderedRing α] [FloorRing α] [NumOps α] [LawfulNumOps α]

/-- C10 (floor): every target quantity is the largest non-negative whole number whose cost plus the fee
estimate fits the asset's normalised share of the buffered equity. -/
theorem C10_floor (fee : FeeModel α) (E b : α) (price : String → Option α) (w : Weights α) (q : Quantities)
    (hw : ∀ x ∈ w, 0 ≤ x.2) (hnd : (w.map (·.1)).Nodup)
    (hp : ∀ a p, price a = some p → 0 < p) (hE : 0 < E) (hb1 : b ≤ 1)
    (hf1 : feeRate fee ≤ 1) (hS : tiny < (w.map (·.2)).sum)
    (hq : dwSize fee E b price w = .ok q) :
    ∀ a qa, (a, qa) ∈ q → ∀ wa pa, (a, wa) ∈ w → price a = some pa →
      let A := E * (1 - b) * (wa / (w.map (·.2)).sum)
      0 ≤ qa ∧ (qa : α) * pa + feeRate fee * A ≤ A ∧ A < ((qa : α) + 1) * pa + feeRate fee * A :=
  dwSize_floor fee E b price w q hnd hp hE.le hb1 hf1 hS hq

/-- C10 (budget): the whole target costs at most `(1 − buffer) × equity` at the sizing prices. -/
theorem C10_budget (fee : FeeModel α) (E b : α) (price : String → Option α) (w : Weights α) (q : Quantities)
    (hw : ∀ x ∈ w, 0 ≤ x.2)
    (hp : ∀ a p, price a = some p → 0 < p) (hE : 0 < E) (hb1 : b ≤ 1)
    (hfee : FeeNonneg fee) (hf1 : feeRate fee ≤ 1) (hS : tiny < (w.map (·.2)).sum)
    (hq : dwSize fee E b price w = .ok q) :
    (q.map fun x => (x.2 : α) * (price x.1).getD 0).sum ≤ (1 - b) * E :=
  dwSize_budget fee E b price w q hp hE.le hb1 hfee hf1 hS hq

/-- C10 (reject, negative weight): any negative weight is a `ValueError`. -/
theorem C10_reject_negative (fee : FeeModel α) (E b : α) (price : String → Option α) (w : Weights α)
    (hneg : ∃ x ∈ w, x.2 < 0) : dwSize fee E b price w = .error .value := by
  obtain ⟨x, hx, h⟩ := hneg
  rw [dwSize_eq, if_neg fun hh => absurd (hh.1 x hx) (not_le.mpr h)]

/-- C10 (reject, NaN price): with no negative weight, a key without a price is a `ValueError`. -/
theorem C10_reject_price (fee : FeeModel α) (E b : α) (price : String → Option α) (w : Weights α)
    (hw : ∀ x ∈ w, 0 ≤ x.2) (hmiss : ∃ x ∈ w, price x.1 = none) :
    dwSize fee E b price w = .error .value := by
  obtain ⟨x, hx, h⟩ := hmiss
  rw [dwSize_eq, if_neg fun hh => by have := hh.2 x hx; rw [h] at this; cases this]

/-- C10 (reject, buffer): a cash buffer outside `[0, 1]` is a `ValueError`, one inside is accepted. -/
theorem C10_reject_buffer (b : α) :
    ((b < 0 ∨ 1 < b) → dwCheckBuffer b = .error .value) ∧
    (0 ≤ b → b ≤ 1 → dwCheckBuffer b = .ok b) := by
  unfold dwCheckBuffer
  simp only [lt_eq, zero_eq, one_eq, Bool.or_eq_true, decide_eq_true_eq]
  constructor
  · intro h; rw [if_pos h]
  · intro h0 h1; rw [if_neg]; rintro (h | h)
    · exact absurd h (not_lt.mpr h0)
    · exact absurd h (not_lt.mpr h1)

theorem C10_empty (fee : FeeModel α) (E b : α) (price : String → Option α) :
    dwSize fee E b price [] = .ok [] := rfl

/-- C10 (reject): all rejection / degenerate clauses together. -/
theorem C10_reject (fee : FeeModel α) (E b : α) (price : String → Option α) (w : Weights α) :
    ((∃ x ∈ w, x.2 < 0) → dwSize fee E b price w = .error .value) ∧
    ((∀ x ∈ w, 0 ≤ x.2) → (∃ x ∈ w, price x.1 = none) → dwSize fee E b price w = .error .value) ∧
    ((b < 0 ∨ 1 < b) → dwCheckBuffer b = .error .value) ∧
    (0 ≤ b → b ≤ 1 → dwCheckBuffer b = .ok b) ∧
    dwSize fee E b price [] = .ok [] :=
  ⟨C10_reject_negative fee E b price w, C10_reject_price fee E b price w,
   (C10_reject_buffer b).1, (C10_reject_buffer b).2, C10_empty fee E b price⟩

/-- C10 (keys): a successful call returns exactly the input's keys, in ascending order, one entry per
input entry; every key has a price and no weight is negative.  With pairwise-distinct input keys the
order is strictly ascending (so the key list is uniquely determined). -/
theorem C10_keys (fee : FeeModel α) (E b : α) (price : String → Option α) (w : Weights α) (q : Quantities)
    (hq : dwSize fee E b price w = .ok q) :
    (q.map (·.1)).Perm (w.map (·.1)) ∧ (q.map (·.1)).Pairwise (· ≤ ·) ∧ q.length = w.length ∧
    ((w.map (·.1)).Nodup → (q.map (·.1)).Pairwise (· < ·)) ∧
    (∀ x ∈ w, ∃ p, price x.1 = some p) ∧ (∀ x ∈ w, 0 ≤ x.2) := by
  obtain ⟨⟨hw, hpr⟩, rfl⟩ := dwSize_ok_iff.mp hq
  rw [sized_keys]
  exact ⟨sortByKey_keys_perm w, sortByKey_keys_sorted w, length_sized, sortByKey_keys_pairwise_lt,
    fun x hx => Option.isSome_iff_exists.mp (hpr x hx), hw⟩

/-- C10 (zero): all-zero weights (every key priced) give an all-zero target.  (`S = 0` is `isclose` to zero,
the weights are used as they are, `floor(0 / p) = 0`.)  The positive-price hypothesis is the domain of the
real code (`0.0 / 0.0` is NaN there); the model's field arithmetic does not need it. -/
theorem C10_zero (fee : FeeModel α) (E b : α) (price : String → Option α) (w : Weights α)
    (h0 : ∀ x ∈ w, x.2 = 0) (hpr : ∀ x ∈ w, ∃ p, price x.1 = some p)
    (_hp : ∀ a p, price a = some p → 0 < p) :
    ∃ q, dwSize fee E b price w = .ok q ∧ (∀ x ∈ q, x.2 = 0) ∧ q.length = w.length :=
  ⟨_, dwSize_ok_iff.mpr ⟨⟨fun x hx => (h0 x hx).ge, fun x hx => Option.isSome_iff_exists.mpr (hpr x hx)⟩, rfl⟩,
    sized_eq_zero (normScale_zero _ (zero_div _)) (dwQuantity_zero fee _) h0, length_sized⟩

end
/-! ## Non-vacuity and negative witnesses at `ℚ` -/

section Examples

noncomputable local instance instNumOpsQ10 : NumOps ℚ := fieldNumOps ℚ
local instance instLawfulQ10 : LawfulNumOps ℚ := fieldNumOps_lawful ℚ

/-- weights 3 : 1 given out of key order -/
def exW10 : Weights ℚ := [("B", 3), ("A", 1)]
def exPrice10 : String → Option ℚ := fun a =>
  if a = "A" then some 17 else if a = "B" then some (123 / 10) else none
/-- 0.1 % commission, 0.05 % tax -/
def exFee10 : FeeModel ℚ := .percent (1 / 1000) (1 / 2000)

theorem exPrice10_pos : ∀ a p, exPrice10 a = some p → 0 < p := by
  intro a p h
  unfold exPrice10 at h
  split at h
  · cases h; norm_num
  · split at h
    · cases h; norm_num
    · cases h

theorem exW10_sum : (exW10.map (·.2)).sum = 4 := by decide +kernel
theorem exW10_tiny : (NumOps.tiny : ℚ) < (exW10.map (·.2)).sum := by decide +kernel
theorem exW10_nonneg : ∀ x ∈ exW10, (0 : ℚ) ≤ x.2 := by decide +kernel
theorem exW10_nodup : (exW10.map (·.1)).Nodup := by decide +kernel
theorem exFee10_le : feeRate exFee10 ≤ 1 := by decide +kernel
theorem exFee10_nonneg : FeeNonneg exFee10 := by simp [exFee10]

/-- The call computed: equity 100 000, buffer 5 %, so 95 000 is split 23 750 / 71 250;
`floor(23 750 · 0.9985 / 17) = 1394`, `floor(71 250 · 0.9985 / 12.3) = 5783`; keys come out sorted. -/
theorem exOut10 : dwSize exFee10 100000 (1 / 20) exPrice10 exW10 = .ok [("A", 1394), ("B", 5783)] := by
  have hA : exPrice10 "A" = some 17 := by simp [exPrice10]
  have hB : exPrice10 "B" = some (123 / 10) := by simp [exPrice10]
  rw [dwSize_eq, if_pos ⟨exW10_nonneg, by simp [exW10, hA, hB]⟩, sized,
    sortByKey_eq_of_perm_sorted (l' := [("A", 1), ("B", 3)]) (by decide +kernel) (by decide +kernel)]
  simp only [exW10_sum, normScale_of_tiny_lt (exW10_sum ▸ exW10_tiny), List.map_cons, List.map_nil, hA, hB,
    Option.getD_some, exFee10]
  rw [(dwQuantity_eq_iff _ _ _ _ (by decide +kernel) 1394).mpr (by decide +kernel),
    (dwQuantity_eq_iff _ _ _ _ (by decide +kernel) 5783).mpr (by decide +kernel)]

/-- non-vacuity of `C10_floor`: all hypotheses hold on the example -/
example := C10_floor exFee10 100000 (1 / 20) exPrice10 exW10 _ exW10_nonneg exW10_nodup exPrice10_pos
  (by decide +kernel) (by decide +kernel) exFee10_le exW10_tiny exOut10

/-- non-vacuity of `C10_budget`, and the bound it gives: `1394 · 17 + 5783 · 12.3 ≤ 95 000` -/
example : ((1394 : Int) : ℚ) * 17 + (((5783 : Int) : ℚ) * (123 / 10) + 0) ≤ (1 - 1 / 20) * 100000 := by
  have h := C10_budget exFee10 100000 (1 / 20) exPrice10 exW10 _ exW10_nonneg exPrice10_pos
    (by decide +kernel) (by decide +kernel) exFee10_nonneg exFee10_le exW10_tiny exOut10
  have hA : exPrice10 "A" = some 17 := by simp [exPrice10]
  have hB : exPrice10 "B" = some (123 / 10) := by simp [exPrice10]
  simpa only [List.map_cons, List.map_nil, List.sum_cons, List.sum_nil, hA, hB, Option.getD_some] using h

/-- non-vacuity of `C10_keys` -/
example := C10_keys exFee10 100000 (1 / 20) exPrice10 exW10 _ exOut10

/-- non-vacuity of `C10_zero`: two priced assets with zero weight -/
example : ∃ q, dwSize exFee10 100000 (1 / 20) exPrice10 [("B", 0), ("A", 0)] = .ok q ∧
    (∀ x ∈ q, x.2 = 0) ∧ q.length = 2 :=
  C10_zero exFee10 100000 (1 / 20) exPrice10 [("B", 0), ("A", 0)] (by simp) (by simp [exPrice10]) exPrice10_pos

/-- non-vacuity of the rejections: a negative weight; an unpriced key -/
example : dwSize exFee10 100000 (1 / 20) exPrice10 [("B", 3), ("A", -1)] = .error .value :=
  C10_reject_negative _ _ _ _ _ ⟨("A", -1), by simp, by norm_num⟩
example : dwSize exFee10 100000 (1 / 20) exPrice10 [("B", 3), ("Z", 1)] = .error .value :=
  C10_reject_price _ _ _ _ _ (by simp) ⟨("Z", 1), by simp, by simp [exPrice10]⟩

/-- **Negative witness (fee rate above 100 %).**  Commission 80 % + tax 80 %, equity 1 000 000, no buffer,
one asset of weight 1 at price 1: the target quantity is `-600 000`.  Hence `feeRate fee ≤ 1` cannot be
dropped from `C10_floor` / `C10_budget`'s non-negativity clause. -/
theorem C10_neg_qty_fee_gt_one :
    dwSize (FeeModel.percent (4 / 5 : ℚ) (4 / 5)) 1000000 0 (fun _ => some 1) [("A", 1)] =
      .ok [("A", -600000)] := by
  rw [dwSize_eq, if_pos ⟨by simp, by simp⟩, sized_singleton, Option.getD_some,
    normScale_of_tiny_lt (by decide +kernel),
    (dwQuantity_eq_iff _ _ _ _ one_pos (-600000)).mpr (by decide +kernel)]

/-- **Negative witness (`0 < S ≤ 1e-8`).**  One asset of weight `1e-9`, equity 1 000 000, no buffer, no fees,
price `1e-6`: `np.isclose(S, 0)` holds, the weight is used unnormalised and the target quantity is `1000`,
whereas the asset's normalised share is the whole 1 000 000 (`10¹²` shares): the "one more share would
exceed the share" clause of `C10_floor` fails.  Hence `tiny < S` cannot be dropped. -/
theorem C10_floor_fails_tiny_sum :
    dwSize (FeeModel.zero : FeeModel ℚ) 1000000 0 (fun _ => some (1 / 1000000)) [("A", 1 / 1000000000)] =
      .ok [("A", 1000)] ∧
    ¬ ((1000000 : ℚ) * (1 - 0) * ((1 / 1000000000) / (1 / 1000000000)) <
        (((1000 : Int) : ℚ) + 1) * (1 / 1000000) +
          feeRate (FeeModel.zero : FeeModel ℚ) * ((1000000 : ℚ) * (1 - 0) * ((1 / 1000000000) / (1 / 1000000000)))) := by
  refine ⟨?_, by decide +kernel⟩
  rw [dwSize_eq, if_pos ⟨by simp, by simp⟩, sized_singleton, Option.getD_some,
    normScale_of_le_tiny (by decide +kernel),
    (dwQuantity_eq_iff _ _ _ _ (by decide +kernel) 1000).mpr (by decide +kernel)]

end Examples

end Qs
