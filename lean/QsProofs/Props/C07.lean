import QsProofs.Lemmas.Session
import QsProofs.Props.C12

/-!
# C07 — Backtest results up to any date do not depend on later market data

All theorems are about the real model (`Qs.Session.step`, `Qs.Session.runEvents`, `Qs.Session.run`,
`Qs.barLookup`, `Qs.handlerBid`), for EVERY configuration (static and dynamic universes, every schedule kind, both
sizers, fees, burn-in), EVERY alpha model `alpha : Alpha α` — any function of the time, the signals' state and the
universe, which covers fixed weights and every momentum / moving-average / volatility rule, because the signals'
state is itself fed only with `px t` — and over EVERY carrier `α` (no numeric law is used).
-/

set_option linter.unusedSectionVars false

namespace Qs.C07
open Qs.Sess

section
variable {α : Type} [Add α] [Sub α] [Mul α] [Div α] [Neg α] [NumOps α]

/-- One simulation event uses the market view only at the event's own time. -/
theorem C07_step (cfg : SessionCfg α) (alpha : Alpha α) (px₁ px₂ : Px α) (sched : List Int) (s : Session α)
    (ev : SimEvent) (h : ∀ a, px₁ ev.time a = px₂ ev.time a) :
    s.step cfg alpha px₁ sched ev = s.step cfg alpha px₂ sched ev :=
  step_congr (funext h) cfg alpha sched s

/-- the three places where `step` reads the market: the broker's quotes, the sizer's prices and the order
execution (`rebalanceAt`), each at `t` only -/
theorem C07_reads (cfg : SessionCfg α) (alpha : Alpha α) (px₁ px₂ : Px α) (t : Int)
    (h : ∀ a, px₁ t a = px₂ t a) :
    quotesAt px₁ t = quotesAt px₂ t ∧
    (∀ s, rebalanceAt cfg alpha px₁ t s = rebalanceAt cfg alpha px₂ t s) ∧
    (∀ b n l, executeOrders px₁ t b n l = executeOrders px₂ t b n l) :=
  ⟨quotesAt_congr (funext h), fun s => rebalanceAt_congr (funext h) cfg alpha s,
    fun b n l => executeOrders_congr (funext h) l b n⟩

/-- A run uses the market view only at the times of its events: two views that agree there
give the same final state and the same error. -/
theorem C07_runEvents (cfg : SessionCfg α) (alpha : Alpha α) (px₁ px₂ : Px α) (sched : List Int) (s : Session α)
    (events : List SimEvent) (h : ∀ ev ∈ events, ∀ a, px₁ ev.time a = px₂ ev.time a) :
    Session.runEvents cfg alpha px₁ sched s events = Session.runEvents cfg alpha px₂ sched s events :=
  runEvents_congr (fun ev hev => funext (h ev hev)) cfg alpha sched s

/-- `Qs.Sess.upTo` written out, so that the statements below can be read without the lemma file -/
theorem C07_upTo_def (T : Int) (r : Session α × Option (Int × Err)) :
    upTo T r =
      (r.1.allocations.filter (fun x => decide (x.1 ≤ T)),
       r.1.fills.filter (fun f => decide (f.time ≤ T)),
       r.1.equity.filter (fun x => decide (x.1 ≤ T)),
       r.2.filter (fun x => decide (x.1 ≤ T))) := rfl

/-- Events later than `T` change nothing dated `≤ T`: every record they append is
stamped with an event time, and an error they raise is dated after `T` — whatever the market. -/
theorem C07_late (cfg : SessionCfg α) (alpha : Alpha α) (px : Px α) (sched : List Int) (T : Int)
    (s : Session α) (events : List SimEvent) (hl : ∀ ev ∈ events, T < ev.time) :
    upTo T (Session.runEvents cfg alpha px sched s events) = upTo T (s, none) :=
  upTo_late cfg alpha px sched T events s hl

/-- Splitting the events at `T`: the two runs over the events `≤ T` are EQUAL
(final state and error), and the whole run restricted to `≤ T` is the restriction of that common prefix run
unless it already failed. -/
theorem C07_session_split (cfg : SessionCfg α) (alpha : Alpha α) (px₁ px₂ : Px α) (sched : List Int)
    (s : Session α) (pre post : List SimEvent) (T : Int)
    (hpre : ∀ ev ∈ pre, ev.time ≤ T) (hpost : ∀ ev ∈ post, T < ev.time)
    (h : ∀ t, t ≤ T → ∀ a, px₁ t a = px₂ t a) :
    Session.runEvents cfg alpha px₁ sched s pre = Session.runEvents cfg alpha px₂ sched s pre ∧
    upTo T (Session.runEvents cfg alpha px₁ sched s (pre ++ post)) =
      upTo T (Session.runEvents cfg alpha px₁ sched s pre) := by
  refine ⟨C07_runEvents cfg alpha px₁ px₂ sched s pre (fun ev hev => h _ (hpre ev hev)), ?_⟩
  rw [runEvents_append]
  rcases Session.runEvents cfg alpha px₁ sched s pre with ⟨s1, _ | e⟩
  · exact upTo_late cfg alpha px₁ sched T post s1 hpost
  · rfl

/-- Over events sorted by time (true of the simulation clock, `C12_sorted`), if two markets
agree at every time `≤ T`, then every allocation record, fill and equity point dated `≤ T` is identical in the
two runs, and a run that fails at a time `≤ T` fails identically in both. -/
theorem C07_session (cfg : SessionCfg α) (alpha : Alpha α) (px₁ px₂ : Px α) (sched : List Int) (s : Session α)
    (events : List SimEvent) (T : Int) (hs : (events.map (·.time)).Pairwise (· < ·))
    (h : ∀ t, t ≤ T → ∀ a, px₁ t a = px₂ t a) :
    upTo T (Session.runEvents cfg alpha px₁ sched s events) =
      upTo T (Session.runEvents cfg alpha px₂ sched s events) := by
  obtain ⟨pre, post, rfl, hpre, hpost⟩ := split_at_time events T (hs.imp Int.le_of_lt)
  obtain ⟨h1, h2⟩ := C07_session_split cfg alpha px₁ px₂ sched s pre post T hpre hpost h
  obtain ⟨_, h2'⟩ := C07_session_split cfg alpha px₂ px₁ sched s pre post T hpre hpost
    (fun t ht a => (h t ht a).symm)
  rw [h2, h2', h1]

/-- Two bar files (distinct days each) with the same bars dated on or before day `dayT` answer
every lookup at a time up to the end of that day identically — whatever later bars they hold, or none. -/
theorem C07_market (adjust : Bool) (bars bars' : List (Bar α)) (dayT t : Int)
    (hd : bars.Pairwise (fun a b => a.day ≠ b.day)) (hd' : bars'.Pairwise (fun a b => a.day ≠ b.day))
    (h : ∀ b, (b ∈ bars ∧ b.day ≤ dayT) ↔ (b ∈ bars' ∧ b.day ≤ dayT))
    (ht : t ≤ dayT * 86400 + 86399) :
    barLookup adjust bars t = barLookup adjust bars' t :=
  barLookup_upTo adjust bars bars' dayT t hd hd' h ht

/-- Two lists of CSV sources that agree source by source on the bars dated on or before `dayT`
(`AgreeUpTo`: same adjustment flag, and for every asset the same such bars — an asset unknown to a source counts
as having no bars, since the handler skips it either way) give the same handler price at every time up to the end
of day `dayT`. -/
theorem C07_handler (sources sources' : List (DataSource α)) (dayT t : Int) (a : String)
    (h : List.Forall₂ (AgreeUpTo dayT) sources sources')
    (hd : ∀ ds ∈ sources, DistinctDays ds) (hd' : ∀ ds ∈ sources', DistinctDays ds)
    (ht : t ≤ dayT * 86400 + 86399) :
    handlerBid sources t a = handlerBid sources' t a := by
  induction h with
  | nil => rfl
  | cons hab _ ih =>
    rw [handlerBid_cons, handlerBid_cons,
      srcVal_upTo (hd _ (List.mem_cons_self ..)) (hd' _ (List.mem_cons_self ..)) hab ht a,
      ih (fun d m => hd d (List.mem_cons_of_mem _ m)) (fun d m => hd' d (List.mem_cons_of_mem _ m))]

/-- Two backtests of the same configuration and alpha model whose data sources agree on all
bars dated on or before day `dayT` agree on everything dated `≤ T`, for every `T` up to the end of day `dayT`:
either both constructions fail identically (the construction reads no market data), or both run and
`upTo T` of the two results coincide. -/
theorem C07_backtest (cfg : SessionCfg α) (alpha : Alpha α) (sources sources' : List (DataSource α))
    (dayT T : Int) (h : List.Forall₂ (AgreeUpTo dayT) sources sources')
    (hd : ∀ ds ∈ sources, DistinctDays ds) (hd' : ∀ ds ∈ sources', DistinctDays ds)
    (hT : T ≤ dayT * 86400 + 86399) :
    (Session.run cfg alpha (handlerBid sources)).map (upTo T) =
      (Session.run cfg alpha (handlerBid sources')).map (upTo T) := by
  rw [run_eq, run_eq]
  rcases hi : Session.init cfg with e | ⟨s0, events, sched⟩
  · simp only [Except.map]
  · obtain ⟨_, _, _, _, hsim, _⟩ := init_fresh hi
    have hs := C12.C12_sorted cfg.start cfg.end_ false false events hsim
    have key := C07_session cfg alpha (handlerBid sources) (handlerBid sources') sched s0 events T hs
      (fun t ht a => C07_handler sources sources' dayT t a h hd hd' (Int.le_trans ht hT))
    show Except.ok _ = Except.ok _
    exact congrArg Except.ok key

end

/-! ## Non-vacuity -/

namespace Ex

/-- Monday 2020-03-02 … Wednesday 2020-03-04, daily rebalance, one asset, fixed weight -/
def cfg : SessionCfg Rat :=
  { start := 18323 * 86400, end_ := 18325 * 86400 + 86399, burnIn := none, rebalance := .daily,
    longOnly := true, param := 0, fee := .zero, initialCash := 1000, uni := .static ["A"], nan := 0 }

def alpha : Alpha Rat := fixedAlpha [("A", 1)]

/-- world 1: the full file; world 2: Wednesday's bar replaced by other values; world 3: Wednesday's bar removed -/
def bars₁ : List (Bar Rat) :=
  [⟨18323, some 10, some 11, some 11⟩, ⟨18324, some 12, some 13, some 13⟩, ⟨18325, some 14, some 15, some 15⟩]
def bars₂ : List (Bar Rat) :=
  [⟨18323, some 10, some 11, some 11⟩, ⟨18324, some 12, some 13, some 13⟩, ⟨18325, some 999, none, some 1⟩]
def bars₃ : List (Bar Rat) :=
  [⟨18323, some 10, some 11, some 11⟩, ⟨18324, some 12, some 13, some 13⟩]

def src (bars : List (Bar Rat)) : List (DataSource Rat) := [⟨false, [("A", bars)]⟩]

theorem barsOf_src (bars : List (Bar Rat)) (a : String) :
    barsOf ⟨false, [("A", bars)]⟩ a = if a = "A" then bars else [] := by
  unfold barsOf
  by_cases h : a = "A"
  · subst h; simp [List.lookup]
  · have : (a == "A") = false := by simpa using h
    simp [List.lookup, this, h]

theorem distinct (bars : List (Bar Rat)) (hb : bars.Pairwise (fun x y => x.day ≠ y.day)) :
    ∀ ds ∈ src bars, DistinctDays ds := by
  intro ds hds
  simp only [src, List.mem_singleton] at hds
  subst hds
  intro a
  rw [barsOf_src]
  split
  · exact hb
  · exact List.Pairwise.nil

theorem d₁ : bars₁.Pairwise (fun x y => x.day ≠ y.day) := by decide +kernel
theorem d₂ : bars₂.Pairwise (fun x y => x.day ≠ y.day) := by decide +kernel
theorem d₃ : bars₃.Pairwise (fun x y => x.day ≠ y.day) := by decide +kernel

/-- the hypothesis of `C07_market` / `C07_handler` holds with `dayT` = Tuesday (18324): the worlds differ on
Wednesday only -/
theorem agree (bars bars' : List (Bar Rat))
    (h : ∀ b, (b ∈ bars ∧ b.day ≤ 18324) ↔ (b ∈ bars' ∧ b.day ≤ 18324)) :
    List.Forall₂ (AgreeUpTo 18324) (src bars) (src bars') := by
  refine List.Forall₂.cons ⟨rfl, fun a b => ?_⟩ List.Forall₂.nil
  rw [barsOf_src, barsOf_src]
  split
  · exact h b
  · simp

theorem agree₁₂ : ∀ b : Bar Rat, (b ∈ bars₁ ∧ b.day ≤ 18324) ↔ (b ∈ bars₂ ∧ b.day ≤ 18324) := by
  intro b
  simp only [bars₁, bars₂, List.mem_cons, List.not_mem_nil, or_false]
  constructor
  · rintro ⟨rfl | rfl | rfl, h⟩
    · exact ⟨Or.inl rfl, h⟩
    · exact ⟨Or.inr (Or.inl rfl), h⟩
    · simp at h
  · rintro ⟨rfl | rfl | rfl, h⟩
    · exact ⟨Or.inl rfl, h⟩
    · exact ⟨Or.inr (Or.inl rfl), h⟩
    · simp at h

theorem agree₁₃ : ∀ b : Bar Rat, (b ∈ bars₁ ∧ b.day ≤ 18324) ↔ (b ∈ bars₃ ∧ b.day ≤ 18324) := by
  intro b
  simp only [bars₁, bars₃, List.mem_cons, List.not_mem_nil, or_false]
  constructor
  · rintro ⟨rfl | rfl | rfl, h⟩
    · exact ⟨Or.inl rfl, h⟩
    · exact ⟨Or.inr rfl, h⟩
    · simp at h
  · rintro ⟨rfl | rfl, h⟩
    · exact ⟨Or.inl rfl, h⟩
    · exact ⟨Or.inr (Or.inl rfl), h⟩

/-- `C07_backtest` instantiated: replacing (world 2) or removing (world 3) Wednesday's data leaves everything
dated up to Tuesday 23:59:59 unchanged -/
example : (Session.run cfg alpha (handlerBid (src bars₁))).map (upTo (18324 * 86400 + 86399)) =
    (Session.run cfg alpha (handlerBid (src bars₂))).map (upTo (18324 * 86400 + 86399)) :=
  C07_backtest cfg alpha _ _ 18324 _ (agree _ _ agree₁₂) (distinct _ d₁) (distinct _ d₂) (by decide)

example : (Session.run cfg alpha (handlerBid (src bars₁))).map (upTo (18324 * 86400 + 86399)) =
    (Session.run cfg alpha (handlerBid (src bars₃))).map (upTo (18324 * 86400 + 86399)) :=
  C07_backtest cfg alpha _ _ 18324 _ (agree _ _ agree₁₃) (distinct _ d₁) (distinct _ d₃) (by decide)

/-- the hypothesis of `C07_session` in the `Px` form, and a pair of market views that really differ after `T` -/
def px₁ : Px Rat := fun _ a => if a = "A" then some 10 else none
def px₂ : Px Rat := fun t a => if a = "A" then (if t ≤ 1583269200 then some 10 else some 77) else none

example : (∀ t, t ≤ 1583269200 → ∀ a, px₁ t a = px₂ t a) ∧ px₁ 1583332200 "A" ≠ px₂ 1583332200 "A" := by
  refine ⟨fun t ht a => ?_, by decide⟩
  unfold px₁ px₂
  simp only [ht, if_true]

/-- the session of the examples after its first `n` events.  The conclusion of `C07_session` is not trivial: in
world `px₁`, after three events (Monday's open and close, Tuesday's open), the part dated up to Tuesday's close holds
one allocation record, one fill and one equity point (kernel evaluation below) -/
def after (px : Px Rat) (n : Nat) : Option (Session Rat × Option (Int × Err)) :=
  (Session.init cfg).toOption.map fun r => Session.runEvents cfg alpha px r.2.2 r.1 (r.2.1.take n)

example : (after px₁ 3).map (fun r => (upTo 1583269200 r).1) = some [(1583182800, [("A", 1)])] := by decide +kernel
example : (after px₁ 3).map (fun r => (upTo 1583269200 r).2.1.map fun f => (f.time, f.asset, f.qty, f.price)) =
    some [(1583245800, "A", 100, 10)] := by decide +kernel
example : (after px₁ 3).map (fun r => (upTo 1583269200 r).2.2.1) = some [(1583182800, 1000)] := by decide +kernel
/-- … while restricted to Monday's close the Tuesday fill is cut off -/
example : (after px₁ 3).map (fun r => (upTo 1583182800 r).2.1.length) = some 0 := by decide +kernel

end Ex

end Qs.C07
