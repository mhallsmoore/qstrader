import QsProofs.Lemmas.OrdersExample

/-!
# C04 — Orders fill exactly once, in full, only in exchange hours, sells first

`SimulatedBroker.submit_order` only queues; `update(dt)` fills the whole batch of all portfolios, sells first, each
order in full, and only if the exchange is open at `dt`. Over any run of transfers, creations, submissions and
updates on a broker with distinct portfolio ids (`WF`) nothing is dropped, duplicated or altered, provided every
`update` returns normally — which `TraceOK` (times do not go back, quotes positive, queued assets quoted) ensures
from a state with no clock ahead of the broker's (`ClocksOK`).
-/

set_option linter.unusedSectionVars false

namespace Qs

/-- The exchange is open exactly Monday–Friday, 14:30:00 ≤ time of day < 21:00:00 (UTC). -/
theorem C04_hours (t : Int) :
    isOpen t = true ↔ (dayOf t + 3) % 7 ≤ 4 ∧ 52200 ≤ t % 86400 ∧ t % 86400 < 75600 :=
  isOpen_iff t

-- non-vacuity: Monday 2021-01-04 15:00:00 UTC is open, Saturday 2021-01-02 15:00:00 and Monday 21:00:00 are closed
example : isOpen 1609772400 = true ∧ isOpen 1609599600 = false ∧ isOpen 1609794000 = false := by decide

section structural
variable {α : Type} [Add α] [Sub α] [Mul α] [Div α] [Neg α] [NumOps α]

/-- Submitting changes nothing but the queue of `pid`, at whose END the order is
appended; it is refused with `KeyError` if `pid` does not exist. -/
theorem C04_submit_pure (σ : Broker α) (pid : String) (o : Order) (hwf : WF σ) :
    (σ.has pid = false → step σ (.submit pid o) = (σ, some .key)) ∧
    (σ.has pid = true →
      (step σ (.submit pid o)).2 = none ∧
      (step σ (.submit pid o)).1.master = σ.master ∧
      (step σ (.submit pid o)).1.clock = σ.clock ∧
      (step σ (.submit pid o)).1.fee = σ.fee ∧
      (step σ (.submit pid o)).1.fillLog = σ.fillLog ∧
      (step σ (.submit pid o)).1.entries.map (·.pf) = σ.entries.map (·.pf) ∧
      (step σ (.submit pid o)).1.queueOf pid = σ.queueOf pid ++ [o] ∧
      ∀ p, p ≠ pid → (step σ (.submit pid o)).1.queueOf p = σ.queueOf p) := by
  refine ⟨fun h => submitOrder_none (find?_of_not_has h) o, fun h => ?_⟩
  obtain ⟨e, hf⟩ := find?_of_has h
  -- an accepted submission is the keyed in-place update "append `o`" at `pid`: the lookups are those of `ListAux`
  have hself := find?_upd_self (fun x : PfEntry α => x.pf.id) (fun x => { x with queue := x.queue ++ [o] }) pid
    (fun _ h => h) σ.entries
  have hne := fun p (hp : p ≠ pid) => find?_upd_ne (fun x : PfEntry α => x.pf.id)
    (fun x => { x with queue := x.queue ++ [o] }) pid (fun _ h => h) hp σ.entries
  rw [show step σ (.submit pid o) = _ from submitOrder_eq σ pid o hwf h]
  refine ⟨rfl, rfl, rfl, rfl, rfl, ?_, ?_, fun p hp => ?_⟩
  · rw [List.map_map]
    exact List.map_congr_left fun x _ => by rw [Function.comp_apply]; split <;> rfl
  · simp only [Broker.queueOf, Broker.find?, hself, show List.find? _ σ.entries = some e from hf, Option.map_some]
  · simp only [Broker.queueOf, Broker.find?, hne p hp]

/-- An update outside exchange hours (whatever its outcome) leaves every queue, every cash
balance, every history, the master account and the fill log unchanged. -/
theorem C04_closed (σ : Broker α) (t : Int) (q : Quotes α) (hwf : WF σ) (hclosed : isOpen t = false) :
    (σ.update t q).1.entries.map (fun e => (e.pf.id, e.queue, e.pf.cash, e.pf.history))
      = σ.entries.map (fun e => (e.pf.id, e.queue, e.pf.cash, e.pf.history)) ∧
    (σ.update t q).1.fillLog = σ.fillLog ∧ (σ.update t q).1.master = σ.master ∧
    (∀ pid, (σ.update t q).1.queueOf pid = σ.queueOf pid) ∧
    (∀ pid, (σ.update t q).1.cashOf pid = σ.cashOf pid) := by
  rw [update_closed σ t q hclosed]
  obtain ⟨hq, _, _, hm, hl, hv⟩ := marked_spec σ t q
  exact ⟨hv hwf, hl, hm, queueOf_congr hq, cashOf_congr (hv hwf)⟩

/-- An update in exchange hours that returns normally fills the whole drained batch, sells
first, each order in full (`qty`, `asset`, `orderId` of the order, stamped `t`), appends exactly these
transactions to the fill log, and leaves every queue empty. Per portfolio the fills are
`queue.filter isSell ++ queue.filter (not isSell)`. -/
theorem C04_open (σ : Broker α) (t : Int) (q : Quotes α) (hwf : WF σ) (hopen : isOpen t = true)
    (hret : (σ.update t q).2 = none) :
    (∃ fills : List (String × Txn α),
      (σ.update t q).1.fillLog = σ.fillLog ++ fills ∧
      List.Forall₂ (fun (x : String × Order) (f : String × Txn α) =>
          f.1 = x.1 ∧ f.2.qty = x.2.qty ∧ f.2.orderId = x.2.id ∧ f.2.asset = x.2.asset ∧ f.2.time = t ∧
          Broker.makeTxn { σ with clock := t } q x.2 = .ok f.2)
        (sellsFirst (fun (x : String × Order) => x.2.isSell) σ.drained) fills ∧
      fills.map (fun f => (f.1, f.2.order)) = sellsFirst (fun (x : String × Order) => x.2.isSell) σ.drained ∧
      ∀ pid, (fills.filter (fun f => f.1 == pid)).map (fun f => f.2.order)
                = (σ.queueOf pid).filter Order.isSell ++ (σ.queueOf pid).filter (fun o => !o.isSell)) ∧
    (σ.update t q).1.entries.map (fun e => (e.pf.id, e.queue)) = σ.entries.map (fun e => (e.pf.id, [])) ∧
    (∀ pid, (σ.update t q).1.queueOf pid = []) ∧ (σ.update t q).1.drained = [] := by
  obtain ⟨⟨fills, hlog, hf2⟩, hq⟩ := update_open_spec σ t q hopen hret
  have hmap : fills.map (fun f => (f.1, f.2.order)) = sellsFirst (fun (x : String × Order) => x.2.isSell) σ.drained :=
    filled_of_forall₂ hf2 (fun x f h => ⟨h.1, (makeTxn_fields h.2).1⟩)
  have hqv : ∀ v ∈ (σ.update t q).1.qview, v.2 = [] := by
    rw [hq]; rintro _ hv
    obtain ⟨w, _, rfl⟩ := List.mem_map.mp hv; rfl
  refine ⟨⟨fills, hlog, hf2.imp fun x f h => ?_, hmap, fun pid => ?_⟩, ?_, queueOf_nil_of_qview _ hqv, ?_⟩
  · -- the transaction carries the fields of the order it was built from
    have ho := makeTxn_fields h.2
    exact ⟨h.1, congrArg Order.qty ho.1, congrArg Order.id ho.1, congrArg Order.asset ho.1, ho.2, h.2⟩
  · have := batch_per_portfolio σ hwf pid
    rwa [← hmap, List.filter_map, List.map_map] at this
  · simpa only [Broker.qview, List.map_map, Function.comp_def] using hq
  · rw [drained_of_qview, hq]
    simp [List.flatMap_map]

/-- Trace form (every `update` of the run returns normally): after any run of
transfers, portfolio creations, submissions and updates, what has been filled together with what is still
pending is, as a multiset of `(portfolio, order)` pairs, exactly what was filled or pending before plus the
submissions accepted along the run: nothing is dropped, duplicated or altered. -/
theorem C04_conservation (σ : Broker α) (ops : List (Op α)) (hwf : WF σ) (hops : ∀ op ∈ ops, op.isC04)
    (hret : UpdatesReturn σ ops) :
    (((run σ ops).fillLog.map (fun f => (f.1, f.2.order))) ++ (run σ ops).drained).Perm
      ((σ.fillLog.map (fun f => (f.1, f.2.order))) ++ σ.drained ++ accepted σ ops) :=
  conservation σ ops hwf hops hret

/-- Trace form. Order `o` is submitted to the existing portfolio `pid` after `pre`,
then `post` runs. If all order ids involved are pairwise distinct, then in the final state
* no order id occurs twice among filled and pending orders together (never filled twice, never both filled
  and still queued);
* as long as no update in exchange hours has followed the submission, `o` is still in the queue of `pid`
  and has not been filled;
* at the first update in exchange hours after the submission `o` is filled, in full, stamped with that
  update's time, and it is in the log exactly once ever after;
* hence: filled exactly once iff an open update followed the submission. -/
theorem C04_exactly_once (σ : Broker α) (pre post : List (Op α)) (pid : String) (o : Order) (hwf : WF σ)
    (hops : ∀ op ∈ pre ++ Op.submit pid o :: post, op.isC04)
    (hret : UpdatesReturn σ (pre ++ Op.submit pid o :: post))
    (hacc : (run σ pre).has pid = true)
    (hnd : ((σ.filled ++ σ.drained ++ accepted σ (pre ++ Op.submit pid o :: post)).map (·.2.id)).Nodup) :
    (((run σ (pre ++ Op.submit pid o :: post)).filled
        ++ (run σ (pre ++ Op.submit pid o :: post)).drained).map (·.2.id)).Nodup ∧
    (∀ i, ((run σ (pre ++ Op.submit pid o :: post)).fillLog.map (·.2.orderId)).count i ≤ 1) ∧
    ((∀ t q, Op.update t q ∈ post → isOpen t = false) →
      o ∈ (run σ (pre ++ Op.submit pid o :: post)).queueOf pid ∧
      ((run σ (pre ++ Op.submit pid o :: post)).fillLog.map (·.2.orderId)).count o.id = 0) ∧
    (∀ post₁ t q post₂, post = post₁ ++ Op.update t q :: post₂ →
      (∀ t' q', Op.update t' q' ∈ post₁ → isOpen t' = false) → isOpen t = true →
      (∃ tx, (pid, tx) ∈ (run σ (pre ++ Op.submit pid o :: post)).fillLog ∧ tx.order = o ∧ tx.time = t) ∧
      ((run σ (pre ++ Op.submit pid o :: post)).fillLog.map (·.2.orderId)).count o.id = 1 ∧
      o ∉ (run σ (pre ++ Op.submit pid o :: post)).queueOf pid) ∧
    ((∃ t q, Op.update t q ∈ post ∧ isOpen t = true) ↔
      ((run σ (pre ++ Op.submit pid o :: post)).fillLog.map (·.2.orderId)).count o.id = 1) := by
  obtain ⟨fl, hB, _⟩ := run_book σ _ hwf hops hret
  have hnd' := (((conservation σ _ hwf hops hret).map (·.2.id)).nodup_iff).mpr hnd
  obtain ⟨hpend, hfilled, hle⟩ := count_id hB.wf hnd' pid o
  obtain ⟨hstay, hfill⟩ := submitted_fate σ pre post pid o hwf hops hret hacc
  have hclosed := fun hc => hpend (hstay ((isOpenUpdate_iff post).mpr hc))
  have hopen := fun post₁ t q post₂ hpost hc ho =>
    have h := hfill post₁ t q post₂ hpost ((isOpenUpdate_iff post₁).mpr hc) ho
    And.intro h (h.elim fun tx h' => hfilled tx h'.1 h'.2.1)
  refine ⟨hnd', hle, hclosed, hopen, ?_, fun h1 => ?_⟩
  · rintro ⟨t, q, hm, ho⟩
    obtain ⟨l₁, t', q', l₂, hl, ho', hno⟩ := exists_first_open post ⟨_, hm, ho⟩
    exact (hopen l₁ t' q' l₂ hl ((isOpenUpdate_iff l₁).mp hno) ho').2.1
  · -- no open update ⇒ the count is 0
    by_contra hne
    have hc : ∀ t q, Op.update t q ∈ post → isOpen t = false := fun t q hm => by
      by_contra ho
      exact hne ⟨t, q, hm, by simpa using ho⟩
    rw [(hclosed hc).2] at h1
    cases h1

end structural

section field
variable {α : Type} [Field α] [LinearOrder α] [IsStrictOrderedRing α] [FloorRing α] [NumOps α] [LawfulNumOps α]

/-- Under the quantifier's hypotheses (no portfolio/position clock ahead of the broker
clock, `σ.clock ≤ t`, positive quotes, every queued order's asset quoted when the exchange is open)
`update` returns normally, and the clock hypothesis holds again afterwards. -/
theorem C04_update_ok (σ : Broker α) (t : Int) (q : Quotes α) (h : UpdateOK σ t q) :
    (σ.update t q).2 = none ∧ ClocksOK (σ.update t q).1 :=
  update_ok σ t q h

/-- **C04_conservation** from the quantifier's hypotheses (`TraceOK`, `ClocksOK`) instead of the trace hypothesis. -/
theorem C04_conservation_ok (σ : Broker α) (ops : List (Op α)) (hwf : WF σ) (hc : ClocksOK σ)
    (hok : TraceOK σ ops) :
    (((run σ ops).fillLog.map (fun f => (f.1, f.2.order))) ++ (run σ ops).drained).Perm
      ((σ.fillLog.map (fun f => (f.1, f.2.order))) ++ σ.drained ++ accepted σ ops) :=
  C04_conservation σ ops hwf (traceOK_returns σ ops hc hok).1 (traceOK_returns σ ops hc hok).2

/-- **C04_exactly_once** from the quantifier's hypotheses (`TraceOK`, `ClocksOK`) instead of the trace
hypothesis; same conclusion as `C04_exactly_once`. -/
theorem C04_exactly_once_ok (σ : Broker α) (pre post : List (Op α)) (pid : String) (o : Order) (hwf : WF σ)
    (hc : ClocksOK σ) (hok : TraceOK σ (pre ++ Op.submit pid o :: post))
    (hacc : (run σ pre).has pid = true)
    (hnd : ((σ.filled ++ σ.drained ++ accepted σ (pre ++ Op.submit pid o :: post)).map (·.2.id)).Nodup) :
    (((run σ (pre ++ Op.submit pid o :: post)).filled
        ++ (run σ (pre ++ Op.submit pid o :: post)).drained).map (·.2.id)).Nodup ∧
    (∀ i, ((run σ (pre ++ Op.submit pid o :: post)).fillLog.map (·.2.orderId)).count i ≤ 1) ∧
    ((∀ t q, Op.update t q ∈ post → isOpen t = false) →
      o ∈ (run σ (pre ++ Op.submit pid o :: post)).queueOf pid ∧
      ((run σ (pre ++ Op.submit pid o :: post)).fillLog.map (·.2.orderId)).count o.id = 0) ∧
    (∀ post₁ t q post₂, post = post₁ ++ Op.update t q :: post₂ →
      (∀ t' q', Op.update t' q' ∈ post₁ → isOpen t' = false) → isOpen t = true →
      (∃ tx, (pid, tx) ∈ (run σ (pre ++ Op.submit pid o :: post)).fillLog ∧ tx.order = o ∧ tx.time = t) ∧
      ((run σ (pre ++ Op.submit pid o :: post)).fillLog.map (·.2.orderId)).count o.id = 1 ∧
      o ∉ (run σ (pre ++ Op.submit pid o :: post)).queueOf pid) ∧
    ((∃ t q, Op.update t q ∈ post ∧ isOpen t = true) ↔
      ((run σ (pre ++ Op.submit pid o :: post)).fillLog.map (·.2.orderId)).count o.id = 1) :=
  C04_exactly_once σ pre post pid o hwf (traceOK_returns σ _ hc hok).1 (traceOK_returns σ _ hc hok).2 hacc hnd

/-- **C04_open** from the quantifier's hypotheses: the update returns normally and `C04_open` applies. -/
theorem C04_open_ok (σ : Broker α) (t : Int) (q : Quotes α) (hwf : WF σ) (hopen : isOpen t = true)
    (hok : UpdateOK σ t q) :
    (σ.update t q).2 = none ∧
    (σ.update t q).1.filled = σ.filled ++ sellsFirst (fun (x : String × Order) => x.2.isSell) σ.drained ∧
    (∀ f ∈ (σ.update t q).1.fillLog, f ∈ σ.fillLog ∨ f.2.time = t) ∧
    (σ.update t q).1.drained = [] := by
  have hret := (update_ok σ t q hok).1
  obtain ⟨⟨fills, hlog, hf2, hmap, _⟩, _, _, hdr⟩ := C04_open σ t q hwf hopen hret
  refine ⟨hret, ?_, ?_, hdr⟩
  · rw [filled_of_log hlog, hmap]
  · intro f hf
    rw [hlog] at hf
    rcases List.mem_append.mp hf with hf | hf
    · exact Or.inl hf
    · obtain ⟨x, _, _, _, _, _, htime, _⟩ := forall₂_mem_right hf2 hf
      exact Or.inr htime

/-- the initial broker satisfies the state hypotheses `WF` and `ClocksOK` -/
theorem C04_new_ok (t : Int) (funds : α) (fee : FeeModel α) (b : Broker α) (h : Broker.new t funds fee = .ok b) :
    WF b ∧ ClocksOK b ∧ b.fillLog = [] ∧ b.drained = [] := by
  unfold Broker.new at h
  split at h
  · cases h
  · simp only [Except.ok.injEq] at h
    subst h
    exact ⟨List.nodup_nil, (by intro e he; cases he), rfl, rfl⟩

/-- the trace hypotheses of `C04_exactly_once` follow from the quantifier's hypotheses -/
theorem C04_trace_ok (σ : Broker α) (ops : List (Op α)) (hc : ClocksOK σ) (hok : TraceOK σ ops) :
    (∀ op ∈ ops, op.isC04) ∧ UpdatesReturn σ ops :=
  traceOK_returns σ ops hc hok

end field

/-! ## Non-vacuity at `α := ℚ` (`fieldNumOps ℚ`): the concrete broker `Ex.σ₀` of `Lemmas/OrdersExample.lean`

`p1` (cash 10000, holds 10 `A`) has queued `buy 10 A (#1)`, `sell 5 B (#2)`; `p2` (cash 500) has queued
`sell 2 A (#3)`; quotes `A ↦ (99, 101)`, `B ↦ (49, 51)`; `tOpen` = Monday 15:00, `tClosed` = Monday 13:00. -/

section examples
open Ex

-- C04_submit_pure: both branches are inhabited, and the new order lands at the end of the queue
example : WF σ₀ ∧ σ₀.has "p2" = true ∧ σ₀.has "nope" = false ∧
    (step σ₀ (.submit "p2" oBuyB)).1.queueOf "p2" = [oSellA, oBuyB] ∧
    step σ₀ (.submit "nope" oBuyB) = (σ₀, some .key) := by
  refine ⟨wf, has_p2, by decide, ?_, (C04_submit_pure σ₀ "nope" oBuyB wf).1 (by decide)⟩
  obtain ⟨_, _, _, _, _, _, hq, _⟩ := (C04_submit_pure σ₀ "p2" oBuyB wf).2 has_p2
  rw [hq]; rfl

-- C04_closed: an update on Monday 13:00 leaves queues, cash and the (empty) fill log alone
example : isOpen tClosed = false ∧ (σ₀.update tClosed quotes).1.queueOf "p1" = [oBuyA, oSellB] ∧
    (σ₀.update tClosed quotes).1.cashOf "p1" = some 10000 ∧ (σ₀.update tClosed quotes).1.fillLog = [] := by
  obtain ⟨_, hlog, _, hq, hcash⟩ := C04_closed σ₀ tClosed quotes wf (by decide)
  refine ⟨by decide, ?_, ?_, hlog⟩
  · rw [hq]; rfl
  · rw [hcash]; rfl

-- C04_update_ok / C04_open: the hypotheses hold for `σ₀` on Monday 15:00; the update returns normally and
-- fills #2 (sell, p1), #3 (sell, p2), #1 (buy, p1) in this order; p1's own fills are sell #2 then buy #1
example : UpdateOK σ₀ tOpen quotes ∧ isOpen tOpen = true ∧ (σ₀.update tOpen quotes).2 = none ∧
    (σ₀.update tOpen quotes).1.filled = [("p1", oSellB), ("p2", oSellA), ("p1", oBuyA)] ∧
    (σ₀.update tOpen quotes).1.drained = [] ∧
    sellsFirst Order.isSell (σ₀.queueOf "p1") = [oSellB, oBuyA] := by
  have hret := (C04_update_ok σ₀ tOpen quotes updateOK_open).1
  obtain ⟨⟨fills, hlog, _, hmap, _⟩, _, _, hdr⟩ := C04_open σ₀ tOpen quotes wf (by decide) hret
  refine ⟨updateOK_open, by decide, hret, ?_, hdr, by decide⟩
  rw [filled_of_log hlog, hmap, batch_eq]; rfl

-- C04_conservation / C04_exactly_once on the run `ops` = submit #4 to p2; update (closed); update (open):
-- the quantifier's hypotheses hold, all four orders end up filled, #4 exactly once
example : TraceOK σ₀ ops ∧ ClocksOK σ₀ ∧
    (((run σ₀ ops).fillLog.map (fun f => (f.1, f.2.order))) ++ (run σ₀ ops).drained).Perm
      [("p1", oBuyA), ("p1", oSellB), ("p2", oSellA), ("p2", oBuyB)] ∧
    ((run σ₀ ops).fillLog.map (·.2.orderId)).count oBuyB.id = 1 := by
  have hc := C04_conservation_ok σ₀ ops wf clocksOK traceOK
  rw [accepted_eq, drained_eq] at hc
  obtain ⟨hops, hret⟩ := C04_trace_ok σ₀ ops clocksOK traceOK
  obtain ⟨_, _, _, _, honce⟩ := C04_exactly_once σ₀ [] [.update tClosed quotes, .update tOpen quotes] "p2" oBuyB wf
    hops hret has_p2 ids_nodup
  exact ⟨traceOK, clocksOK, hc, honce.mp ⟨tOpen, quotes, by simp, by decide⟩⟩

end examples
end Qs
