import QsProofs.Lemmas.RefinementRelSession
import QsProofs.Props.C12
import Mathlib.Data.Rat.Floor

/-!
# C08 — A fixed-weight backtest reproduces the documented trading rules exactly

The operational model of the backtest (`Session.run`: event loop → `Broker.update` (marks, exchange hours,
order queue, sells first) → position handler → rebalance test → alpha → portfolio construction → order
submission) REFINES the day-indexed specification `referenceRun` (`QsModel/Reference.lean`):
every observable of the session — fills (time, asset, quantity, price, commission), daily equity, the dates
of the allocation records, final cash, final holdings (as a dictionary, in order) and the still-pending orders —
is the one the reference computes, and the reference is defined whenever the session finishes without error.

`C08_refines` is the whole-run theorem; the `C08_sim_*` theorems are the forward readings, per operation, of the
two-directional statements `Ref.update_rel`, `Ref.step_rel`, `Ref.run_rel`.
-/

namespace Qs
open Qs.Ref

section
variable {α : Type} [Field α] [LinearOrder α] [IsStrictOrderedRing α] [FloorRing α] [NumOps α] [LawfulNumOps α]

/-- For any market data `px` with positive prices, any target weights `w`, any rebalance
schedule, fee model, sizing mode and universe: if the session runs to the end without error, the reference
backtest is defined and the session's fills, equity curve, allocation dates, final cash, final holdings and
pending orders are exactly the reference's.

Hypotheses beyond "the run finishes without error":
* `hnosig`  — a fixed-weight strategy has no signals collection;
* `hpos`    — prices are positive;
* `hstart`  — documented usage: the start stamp's time of day is not after 14:30 (the first market open is not
              before the broker's start clock);
* `hquoted` — every asset that can ever be held (a universe asset or an asset with a target weight) has a price
              at every market open and close of the range.  The model leaves a held asset without a quote
              unmarked (stale price) while the reference's equity is undefined there, so the claim is false
              without it (the last example of this file exhibits such a run). -/
theorem C08_refines (cfg : SessionCfg α) (w : List (String × α)) (px : Px α)
    (hnosig : cfg.signalSpecs = none)
    (hpos : ∀ t a p, px t a = some p → 0 < p)
    (hstart : todOf cfg.start ≤ OPEN)
    (hquoted : ∀ d ∈ bdayRange cfg.start cfg.end_, ∀ a, ((∃ t, a ∈ cfg.uni.assets t) ∨ a ∈ w.map (·.1)) →
        (px (d * 86400 + OPEN) a).isSome ∧ (px (d * 86400 + CLOSE) a).isSome)
    (s : Session α) (hrun : Session.run cfg (fixedAlpha w) px = .ok (s, none)) :
    ∃ r, referenceRun cfg w px = some r ∧
      s.fills = r.fills ∧ s.equity = r.equity ∧ s.allocations.map (·.1) = r.allocDates ∧
      s.broker.portfolioCash PORTFOLIO_ID = .ok r.cash ∧ heldOf s.broker = r.hold ∧
      pendingOf s.broker = r.pending := by
  rw [Sess.run_eq] at hrun
  cases hinit : Session.init cfg with
  | error e => rw [hinit] at hrun; cases hrun
  | ok tr =>
    obtain ⟨s0, events, sched⟩ := tr
    rw [hinit] at hrun
    injection hrun with hrun
    dsimp only at hrun
    obtain ⟨r, hr, t', hsr⟩ :=
      (run_rel cfg w px hnosig hpos hstart s0 events sched hinit (Or.inr hquoted)).fwd (by rw [hrun])
    rw [hrun] at hsr
    exact ⟨r, hr, observables_of_SR cfg s r t' hsr⟩

/-- `C08_refines` for a static universe `l` under the documented usage conditions on the date
(`start ≤ end`, end time of day not before the start's, start time of day 00:00–14:30); the business
days are then exactly the Monday–Friday dates `d` with `dayOf start ≤ d ≤ dayOf end`, and `hquoted` asks a
price for every universe/weighted asset at the open and close of each of them. -/
theorem C08_refines_static (cfg : SessionCfg α) (w : List (String × α)) (px : Px α)
    (hstatic : ∃ l, cfg.uni = .static l) (hnosig : cfg.signalSpecs = none)
    (hpos : ∀ t a p, px t a = some p → 0 < p)
    (hrange : cfg.start ≤ cfg.end_ ∧ todOf cfg.start ≤ todOf cfg.end_ ∧ todOf cfg.start ≤ OPEN)
    (hquoted : ∀ d, dayOf cfg.start ≤ d → d ≤ dayOf cfg.end_ → weekday d ≤ 4 →
        ∀ a, (a ∈ cfg.uni.assets 0 ∨ a ∈ w.map (·.1)) →
          (px (d * 86400 + OPEN) a).isSome ∧ (px (d * 86400 + CLOSE) a).isSome)
    (s : Session α) (hrun : Session.run cfg (fixedAlpha w) px = .ok (s, none)) :
    ∃ r, referenceRun cfg w px = some r ∧
      s.fills = r.fills ∧ s.equity = r.equity ∧ s.allocations.map (·.1) = r.allocDates ∧
      s.broker.portfolioCash PORTFOLIO_ID = .ok r.cash ∧ heldOf s.broker = r.hold ∧
      pendingOf s.broker = r.pending := by
  obtain ⟨l, hl⟩ := hstatic
  refine C08_refines cfg w px hnosig hpos hrange.2.2 ?_ s hrun
  intro d hd a ha
  obtain ⟨h1, h2, h3⟩ := (C12.C12_mem_bdayRange cfg.start cfg.end_ d hrange.2.1).mp hd
  refine hquoted d h1 h2 h3 a ?_
  rcases ha with ⟨t, ht⟩ | ha
  · left
    rw [hl] at ht ⊢
    exact ht
  · exact Or.inr ha

/-! ## The per-event simulation lemmas (abstraction relation `Ref.SR cfg s st t`: one portfolio `PORTFOLIO_ID`,
broker clock `t`, cash / holdings (as lists) / queue / fills / equity / allocation dates equal to `st`'s) -/

/-- the constructed session represents `{ cash := initialCash }`. -/
theorem C08_sim_init (cfg : SessionCfg α) (hnosig : cfg.signalSpecs = none) (s0 : Session α)
    (events : List SimEvent) (sched : List Int) (h : Session.init cfg = .ok (s0, events, sched)) :
    SR cfg s0 { cash := cfg.initialCash } cfg.start ∧
    simEvents cfg.start cfg.end_ false false = .ok events ∧ scheduleOf cfg = .ok sched :=
  init_sim cfg hnosig s0 events sched h

/-- one `broker.update(dt)`; closed exchange: prices only; open exchange: the queue fills
at the prices of `t`, sells first, exactly as `refFillAll`. -/
theorem C08_sim_update (fee : FeeModel α) (px : Px α) (hpos : ∀ t a p, px t a = some p → 0 < p)
    (b : Broker α) (st : RefState α) (t0 t : Int)
    (hbr : BR fee b st t0) (ht : t0 ≤ t) (hq : ∀ x ∈ st.hold, (px t x.1).isSome)
    (hret : (b.update t (quotesAt px t)).2 = none) :
    (isOpen t = false →
      BR fee (b.update t (quotesAt px t)).1 st t ∧ Marked px t (b.update t (quotesAt px t)).1) ∧
    (isOpen t = true →
      ∃ st', refFillAll fee px t { st with pending := [] }
            (sellsFirst (fun (o : String × Int) => decide (o.2 < 0)) st.pending) = some st' ∧
        BR fee (b.update t (quotesAt px t)).1 st' t ∧ Marked px t (b.update t (quotesAt px t)).1 ∧
        st'.pending = [] ∧ st'.equity = st.equity ∧ st'.allocDates = st.allocDates ∧
        (∀ k ∈ st'.hold.map (·.1), k ∈ st.hold.map (·.1) ∨ k ∈ st.pending.map (·.1))) := by
  obtain ⟨st', hst', hbrm⟩ := (update_rel fee px hpos b st t0 t hbr ht).fwd hret
  obtain ⟨f1, f2, f3, f4, -⟩ := refUpdate_frame hst'
  refine ⟨fun ho => ?_, fun ho => ?_⟩
  · cases (refUpdate_closed fee px st ho).symm.trans hst'
    exact ⟨hbrm.1, hbrm.marked hq⟩
  · -- the book after the fills is quoted: its assets were held (`hq`) or pending, and every filled order had a price
    exact ⟨st', (refUpdate_open fee px st ho).symm.trans hst', hbrm.1,
      hbrm.marked (quoted_of_keys f4 hq (refUpdate_quoted hst' ho)), f3 ho, f1, f2, f4⟩

/-- the market-open event = stages 1–2 of `refDay` (pending orders fill sells first at the
open prices; a rebalance scheduled at the open instant sizes from the open prices and fills at once). -/
theorem C08_sim_open (cfg : SessionCfg α) (w : List (String × α)) (px : Px α)
    (hpos : ∀ t a p, px t a = some p → 0 < p) (sched : List Int) (A : String → Prop)
    (hA : ∀ t a, a ∈ cfg.uni.assets t → A a) (hAw : ∀ a ∈ w.map (·.1), A a)
    (s : Session α) (st : RefState α) (t0 t : Int) (hsr : SR cfg s st t0) (ht : t0 ≤ t)
    (ho : isOpen t = true) (hq : ∀ a, A a → (px t a).isSome) (has : Assets A st)
    (hret : (s.step cfg (fixedAlpha w) px sched ⟨t, .marketOpen⟩).2 = none) :
    ∃ st1 st2, refFillAll cfg.fee px t { st with pending := [] }
          (sellsFirst (fun (o : String × Int) => decide (o.2 < 0)) st.pending) = some st1 ∧
      refOpenReb cfg w px sched t st1 = some st2 ∧
      SR cfg (s.step cfg (fixedAlpha w) px sched ⟨t, .marketOpen⟩).1 st2 t ∧
      Marked px t (s.step cfg (fixedAlpha w) px sched ⟨t, .marketOpen⟩).1.broker ∧
      st2.pending = [] ∧ Assets A st2 := by
  obtain ⟨st2, hev, hsrm⟩ :=
    (step_rel cfg w px hpos sched s st t0 ⟨t, .marketOpen⟩ hsr ht (readsQuoted_of_assets cfg w px A hA hAw has hq)).fwd hret
  have has2 := refEvent_assets cfg w px A hA hAw hev has
  rw [refEvent_open _ _ _ _ _ _ ho] at hev
  obtain ⟨st1, h1, h2⟩ := Option.bind_eq_some_iff.mp hev
  exact ⟨st1, st2, h1, h2, hsrm.1,
    BRM.marked ⟨hsrm.1.br, hsrm.2⟩ fun x hx => hq _ (has2.1 _ (List.mem_map.mpr ⟨x, hx, rfl⟩)),
    (refOpenReb_pending ho h2).trans (refFillAll_frame h1).1, has2⟩

/-- the market-close event = stages 3–4 of `refDay` (a scheduled rebalance sizes from equity
and closing prices and queues target − holdings; then the equity record). -/
theorem C08_sim_close (cfg : SessionCfg α) (w : List (String × α)) (px : Px α)
    (hpos : ∀ t a p, px t a = some p → 0 < p) (sched : List Int) (A : String → Prop)
    (hA : ∀ t a, a ∈ cfg.uni.assets t → A a) (hAw : ∀ a ∈ w.map (·.1), A a)
    (s : Session α) (st : RefState α) (t0 t : Int) (hsr : SR cfg s st t0) (ht : t0 ≤ t)
    (ho : isOpen t = false) (hq : ∀ a, A a → (px t a).isSome) (has : Assets A st)
    (hret : (s.step cfg (fixedAlpha w) px sched ⟨t, .marketClose⟩).2 = none) :
    ∃ st3 st4, refCloseReb cfg w px sched t st = some st3 ∧ refCloseEq cfg px t st3 = some st4 ∧
      SR cfg (s.step cfg (fixedAlpha w) px sched ⟨t, .marketClose⟩).1 st4 t ∧ Assets A st4 := by
  obtain ⟨st4, hev, hsrm⟩ :=
    (step_rel cfg w px hpos sched s st t0 ⟨t, .marketClose⟩ hsr ht (readsQuoted_of_assets cfg w px A hA hAw has hq)).fwd hret
  have has4 := refEvent_assets cfg w px A hA hAw hev has
  rw [refEvent_close _ _ _ _ _ _ ho] at hev
  obtain ⟨st3, h3, h4⟩ := Option.bind_eq_some_iff.mp hev
  exact ⟨st3, st4, h3, h4, hsrm.1, has4⟩

/-- the two events of business day `d` = `refDay … d`. -/
theorem C08_sim_day (cfg : SessionCfg α) (w : List (String × α)) (px : Px α)
    (hpos : ∀ t a p, px t a = some p → 0 < p) (sched : List Int) (A : String → Prop)
    (hA : ∀ t a, a ∈ cfg.uni.assets t → A a) (hAw : ∀ a ∈ w.map (·.1), A a)
    (s : Session α) (st : RefState α) (t0 d : Int) (hsr : SR cfg s st t0) (ht : t0 ≤ d * 86400 + OPEN)
    (hd : weekday d ≤ 4)
    (hq : ∀ a, A a → (px (d * 86400 + OPEN) a).isSome ∧ (px (d * 86400 + CLOSE) a).isSome) (has : Assets A st)
    (s1 s2 : Session α)
    (h1 : s.step cfg (fixedAlpha w) px sched ⟨d * 86400 + OPEN, .marketOpen⟩ = (s1, none))
    (h2 : s1.step cfg (fixedAlpha w) px sched ⟨d * 86400 + CLOSE, .marketClose⟩ = (s2, none)) :
    ∃ st', refDay cfg w px sched st d = some st' ∧ SR cfg s2 st' (d * 86400 + CLOSE) ∧ Assets A st' := by
  obtain ⟨st1, st2, f1, f2, hsr1, -, -, has2⟩ := C08_sim_open cfg w px hpos sched A hA hAw s st t0 _ hsr ht
    (isOpen_open d (decide_eq_true hd)) (fun a ha => (hq a ha).1) has (by rw [h1])
  rw [h1] at hsr1
  obtain ⟨st3, st4, f3, f4, hsr2, has4⟩ := C08_sim_close cfg w px hpos sched A hA hAw s1 st2 _ _ hsr1
    (by unfold OPEN CLOSE; omega) (isOpen_close d) (fun a ha => (hq a ha).2) has2 (by rw [h2])
  rw [h2] at hsr2
  exact ⟨st4, by simp only [refDay_eq, f1, f2, f3, f4, Option.bind_some], hsr2, has4⟩

end

/-! ## Non-vacuity at `α := ℚ` (`fieldNumOps ℚ`)

Monday 2021-01-04 00:00 … Wednesday 2021-01-06 00:00 (three business days), universe `["A"]`, weight `A ↦ 1`,
weekly rebalance on Tuesday, long-only without cash buffer, no fees, initial cash 1000; `A` trades at 9 at every
open and at 10 otherwise.  Tuesday's close sizes `⌊1000 / 10⌋ = 100` shares; they fill at Wednesday's open at 9
(cash `1000 − 900 = 100`); Wednesday's equity is `100 + 100 × 10 = 1100`. -/

section nonvacuity

noncomputable local instance (priority := high) ratOps08 : NumOps ℚ := fieldNumOps ℚ
local instance (priority := high) ratLawful08 : LawfulNumOps ℚ := fieldNumOps_lawful ℚ

def exPx08 : Px ℚ := fun t a => if a = "A" then (if t % 86400 = 52200 then some 9 else some 10) else none

noncomputable def exCfg08 : SessionCfg ℚ :=
  { start := 18631 * 86400, end_ := 18633 * 86400, rebalance := .weekly "TUE", longOnly := true, param := 0,
    fee := .zero, initialCash := 1000, uni := .static ["A"], nan := 0 }

def exW08 : List (String × ℚ) := [("A", 1)]

def okNoErr {β γ : Type} : Except Err (β × Option γ) → Bool
  | .ok (_, none) => true
  | _ => false

theorem okNoErr_iff {β γ : Type} (x : Except Err (β × Option γ)) : okNoErr x = true ↔ ∃ s, x = .ok (s, none) := by
  constructor
  · intro h
    match x, h with
    | .ok (s, none), _ => exact ⟨s, rfl⟩
  · rintro ⟨s, rfl⟩; rfl

/-- the example session runs to the end without error (kernel evaluation of the model) -/
theorem exRun08 : ∃ s, Session.run exCfg08 (fixedAlpha exW08) exPx08 = .ok (s, none) :=
  (okNoErr_iff _).mp (by decide +kernel)

theorem exPx08_pos : ∀ t a p, exPx08 t a = some p → 0 < p := by
  intro t a p h
  unfold exPx08 at h
  split at h
  · split at h <;> (cases h; norm_num)
  · cases h

theorem exPx08_quoted (t : Int) : (exPx08 t "A").isSome = true := by
  unfold exPx08
  simp only [if_true]
  split <;> rfl

/-- the example market quotes `"A"` at every instant: universes and weight lists made of `"A"` alone are quoted -/
theorem exQuotedA (cfg : SessionCfg ℚ) (w : List (String × ℚ)) (hu : ∀ t a, a ∈ cfg.uni.assets t → a = "A")
    (hw : ∀ a ∈ w.map (·.1), a = "A") (ds : List Int) :
    ∀ d ∈ ds, ∀ a, ((∃ t, a ∈ cfg.uni.assets t) ∨ a ∈ w.map (·.1)) →
      (exPx08 (d * 86400 + OPEN) a).isSome ∧ (exPx08 (d * 86400 + CLOSE) a).isSome := by
  intro d _ a ha
  obtain rfl : a = "A" := ha.elim (fun ⟨t, ht⟩ => hu t a ht) (hw a)
  exact ⟨exPx08_quoted _, exPx08_quoted _⟩

/-- read a field of the reference's result off its evaluation -/
theorem get_of_map {ρ : Type} {x : Option ρ} {r : ρ} (hr : x = some r) {β : Type} (f : ρ → β) (v : β)
    (h : x.map f = some v) : f r = v := by
  subst hr; exact Option.some.inj h

theorem exQuoted08 : ∀ d ∈ bdayRange exCfg08.start exCfg08.end_, ∀ a,
    ((∃ t, a ∈ exCfg08.uni.assets t) ∨ a ∈ exW08.map (·.1)) →
      (exPx08 (d * 86400 + OPEN) a).isSome ∧ (exPx08 (d * 86400 + CLOSE) a).isSome :=
  exQuotedA exCfg08 exW08 (fun t a h => by simpa [exCfg08, UniverseSpec.assets, staticAssets] using h)
    (fun a h => by simpa [exW08] using h) _

/-- all hypotheses of `C08_refines` hold on the example, and its conclusion, read off the reference
(evaluated by the kernel): one fill of 100 `A` at 9 on Wednesday's open, final cash 100, holdings `A ↦ 100`,
nothing pending, equity 1000, 1000, 1100, one allocation record dated Tuesday's close. -/
example : ∃ s r, Session.run exCfg08 (fixedAlpha exW08) exPx08 = .ok (s, none) ∧
    referenceRun exCfg08 exW08 exPx08 = some r ∧
    s.fills = r.fills ∧ s.equity = r.equity ∧ s.allocations.map (·.1) = r.allocDates ∧
    s.broker.portfolioCash PORTFOLIO_ID = .ok r.cash ∧ heldOf s.broker = r.hold ∧ pendingOf s.broker = r.pending ∧
    r.cash = 100 ∧ r.hold = [("A", 100)] ∧ r.pending = [] ∧
    r.equity = [(18631 * 86400 + 75600, 1000), (18632 * 86400 + 75600, 1000), (18633 * 86400 + 75600, 1100)] ∧
    r.allocDates = [18632 * 86400 + 75600] ∧
    r.fills.map (fun f => (f.time, f.asset, f.qty, f.price, f.commission)) = [(18633 * 86400 + 52200, "A", 100, 9, 0)] := by
  obtain ⟨s, hs⟩ := exRun08
  obtain ⟨r, hr, h1, h2, h3, h4, h5, h6⟩ :=
    C08_refines exCfg08 exW08 exPx08 rfl exPx08_pos (by decide) exQuoted08 s hs
  have get := @get_of_map _ _ r hr
  have v := get (fun r => (r.cash, r.hold, r.pending)) (100, [("A", 100)], []) (by decide +kernel)
  simp only [Prod.mk.injEq] at v
  obtain ⟨v1, v2, v3⟩ := v
  have v4 := get (·.equity) [(18631 * 86400 + 75600, 1000), (18632 * 86400 + 75600, 1000),
    (18633 * 86400 + 75600, 1100)] (by decide +kernel)
  have v5 := get (·.allocDates) [18632 * 86400 + 75600] (by decide +kernel)
  have v6 := get (fun r => r.fills.map (fun f => (f.time, f.asset, f.qty, f.price, f.commission)))
    [(18633 * 86400 + 52200, "A", 100, 9, 0)] (by decide +kernel)
  exact ⟨s, r, hs, hr, h1, h2, h3, h4, h5, h6, v1, v2, v3, v4, v5, v6⟩

/-- the hypotheses of `C08_refines_static` hold as well (static universe, documented date range) -/
example : (∃ l, exCfg08.uni = .static l) ∧
    (exCfg08.start ≤ exCfg08.end_ ∧ todOf exCfg08.start ≤ todOf exCfg08.end_ ∧ todOf exCfg08.start ≤ OPEN) :=
  ⟨⟨["A"], rfl⟩, by decide, by decide, by decide⟩

/-! ### the rebalance-at-the-open branch (buy and hold started at 14:30) -/

/-- Monday 14:30 … Tuesday 14:30, buy-and-hold: the schedule is the first open itself -/
noncomputable def exCfg08b : SessionCfg ℚ :=
  { exCfg08 with start := 18631 * 86400 + 52200, end_ := 18632 * 86400 + 52200, rebalance := .buyAndHold }

theorem exRun08b : ∃ s, Session.run exCfg08b (fixedAlpha exW08) exPx08 = .ok (s, none) :=
  (okNoErr_iff _).mp (by decide +kernel)

/-- sized at Monday's open from the open price 9 (`⌊1000 / 9⌋ = 111`) and filled at that very instant -/
example : ∃ s r, Session.run exCfg08b (fixedAlpha exW08) exPx08 = .ok (s, none) ∧
    referenceRun exCfg08b exW08 exPx08 = some r ∧ s.fills = r.fills ∧ s.equity = r.equity ∧
    heldOf s.broker = r.hold ∧ r.hold = [("A", 111)] ∧ r.cash = 1 ∧ r.allocDates = [18631 * 86400 + 52200] ∧
    r.fills.map (fun f => (f.time, f.asset, f.qty, f.price)) = [(18631 * 86400 + 52200, "A", 111, 9)] ∧
    r.equity = [(18631 * 86400 + 75600, 1111), (18632 * 86400 + 75600, 1111)] := by
  obtain ⟨s, hs⟩ := exRun08b
  have hq := exQuotedA exCfg08b exW08
    (fun t a h => by simpa [exCfg08b, exCfg08, UniverseSpec.assets, staticAssets] using h)
    (fun a h => by simpa [exW08] using h) (bdayRange exCfg08b.start exCfg08b.end_)
  obtain ⟨r, hr, h1, h2, _, _, h5, _⟩ :=
    C08_refines exCfg08b exW08 exPx08 rfl exPx08_pos (by decide) hq s hs
  have get := @get_of_map _ _ r hr
  have v := get (fun r => (r.hold, r.cash, r.allocDates)) ([("A", 111)], 1, [18631 * 86400 + 52200]) (by decide +kernel)
  simp only [Prod.mk.injEq] at v
  exact ⟨s, r, hs, hr, h1, h2, h5, v.1, v.2.1, v.2.2,
    get (fun r => r.fills.map (fun f => (f.time, f.asset, f.qty, f.price))) [(18631 * 86400 + 52200, "A", 111, 9)]
      (by decide +kernel),
    get (·.equity) [(18631 * 86400 + 75600, 1111), (18632 * 86400 + 75600, 1111)] (by decide +kernel)⟩

/-! ### `hquoted` cannot be dropped

Same strategy rebalanced on Monday, but the price of `A` is missing at Tuesday's close (and only there).
The session still finishes without error — the model leaves the held, unquoted asset unmarked and records an
equity from the stale price — while the reference backtest is undefined.  All other hypotheses of `C08_refines`
hold. -/

def exPx08c : Px ℚ := fun t a =>
  if a = "A" then (if t = 18632 * 86400 + 75600 then none else if t % 86400 = 52200 then some 9 else some 10) else none

noncomputable def exCfg08c : SessionCfg ℚ :=
  { exCfg08 with end_ := 18632 * 86400, rebalance := .weekly "MON" }

example : (∃ s, Session.run exCfg08c (fixedAlpha exW08) exPx08c = .ok (s, none)) ∧
    referenceRun exCfg08c exW08 exPx08c = none ∧
    exCfg08c.signalSpecs = none ∧ (∀ t a p, exPx08c t a = some p → 0 < p) ∧ todOf exCfg08c.start ≤ OPEN := by
  refine ⟨(okNoErr_iff _).mp (by decide +kernel), ?_, rfl, ?_, by decide⟩
  · have : (referenceRun exCfg08c exW08 exPx08c).isNone = true := by decide +kernel
    exact Option.isNone_iff_eq_none.mp this
  · intro t a p h
    unfold exPx08c at h
    split at h
    · split at h
      · cases h
      · split at h <;> (cases h; norm_num)
    · cases h

end nonvacuity
end Qs
