import QsProofs.Lemmas.Calendar

/-!
# C13 — Rebalance schedules hold exactly the intended dates and meet a clock event

Each schedule is a list of instants; "the range" is the dates `dayOf start … dayOf end`, and the weekly and end-of-month
statements ask that the end's time of day is not before the start's (pandas keeps the start's time of day and drops an
end date whose stamp exceeds `end`; the daily schedule normalises both ends to midnight and needs no such condition).

Month-based schedules carry `M0 ≤ dayOf start` (`M0` = 1600-01-01, where the model starts counting months): every
instant pandas can represent (from 1677-09-21) satisfies it, so the hypothesis excludes no input of the code.
Each schedule is a `Cal.sched` (`Cal.weeklyRebalances_eq`, `dailyRebalances_eq`, `eomRebalances_eq` in
`Lemmas/Calendar.lean`); order, stamps and the clock event are read off the `sched` lemmas.
-/

namespace Qs.C13
open Qs.Cal

/-- `parseWeekday` is `some` exactly on the (ASCII upper-cased) names MON..FRI, numbered 0..4 -/
theorem C13_parseWeekday_some (s : String) (k : Int) : parseWeekday s = some k ↔
    (s.toUpper = "MON" ∧ k = 0) ∨ (s.toUpper = "TUE" ∧ k = 1) ∨ (s.toUpper = "WED" ∧ k = 2) ∨
    (s.toUpper = "THU" ∧ k = 3) ∨ (s.toUpper = "FRI" ∧ k = 4) := by
  -- one case per branch of the `match`: in each, `s.toUpper` is a known literal, and distinct literals differ
  unfold parseWeekday
  split <;> simp_all <;> omega

theorem C13_parseWeekday_isSome (s : String) :
    (parseWeekday s).isSome = true ↔ s.toUpper ∈ ["MON", "TUE", "WED", "THU", "FRI"] := by
  unfold parseWeekday
  split <;> simp_all

theorem C13_parseWeekday_none (s : String) :
    parseWeekday s = none ↔ s.toUpper ∉ ["MON", "TUE", "WED", "THU", "FRI"] := by
  rw [← C13_parseWeekday_isSome]
  cases parseWeekday s <;> simp

theorem C13_parseWeekday_range (s : String) (k : Int) (h : parseWeekday s = some k) : 0 ≤ k ∧ k ≤ 4 :=
  parseWeekday_range h

theorem C13_reject (start end_ : Int) (s : String) (pre : Bool) (h : parseWeekday s = none) :
    weeklyRebalances start end_ s pre = .error .value := by
  unfold weeklyRebalances
  rw [h]

/-! ## The three range schedules as filters of the date range -/

/-- exactly the dates of the range that fall on the chosen weekday -/
theorem C13_weekly (start end_ : Int) (s : String) (k : Int) (pre : Bool)
    (htod : todOf start ≤ todOf end_) (hp : parseWeekday s = some k) :
    weeklyRebalances start end_ s pre =
      .ok (((daysFrom (dayOf start) (dayOf end_ + 1 - dayOf start).toNat).filter
        (fun d => decide (weekday d = k))).map (stamp pre)) := by
  rw [weeklyRebalances_eq start end_ pre hp, hiOf_eq start end_ htod]; rfl

/-- exactly the Monday–Friday dates of the range — for ANY `start`, `end` (both normalised) -/
theorem C13_daily (start end_ : Int) (pre : Bool) :
    dailyRebalances start end_ pre =
      ((daysFrom (dayOf start) (dayOf end_ + 1 - dayOf start).toNat).filter isBDay).map (stamp pre) :=
  dailyRebalances_eq start end_ pre

/-- exactly the dates of the range that are the last Mon–Fri date of their month -/
theorem C13_eom (start end_ : Int) (pre : Bool) (h0 : M0 ≤ dayOf start) (htod : todOf start ≤ todOf end_) :
    eomRebalances start end_ pre =
      ((daysFrom (dayOf start) (dayOf end_ + 1 - dayOf start).toNat).filter isBMonthEnd).map (stamp pre) := by
  rw [eomRebalances_eq start end_ pre h0, hiOf_eq start end_ htod]; rfl

theorem C13_eom_sound_complete (start end_ x : Int) (h0 : M0 ≤ dayOf start) (htod : todOf start ≤ todOf end_) :
    x ∈ bmeRangeDays start end_ ↔ dayOf start ≤ x ∧ x ≤ dayOf end_ ∧ isBMonthEnd x = true := by
  rw [mem_bmeRangeDays h0, hiOf_eq start end_ htod]

/-- `isBMonthEnd d` ⇔ `d` is a business day whose next business day lies in another month -/
theorem C13_eom_char (d : Int) (hd : M0 ≤ d) :
    isBMonthEnd d = true ↔ isBDay d = true ∧ (findMonth (nextBDay d)).1 ≠ (findMonth d).1 := by
  obtain ⟨k, he, hk⟩ := findMonth_spec d hd
  obtain ⟨n1, n2, n3⟩ := nextBDay_spec d
  rw [he, isBMonthEnd_iff_last hk]
  simp only [ne_eq, findMonth_fst_iff (show M0 ≤ nextBDay d by omega)]
  refine and_congr_right fun _ => ?_
  unfold InMonth at *
  constructor
  · intro hlater hc
    have := hlater _ n1 hc.2
    rw [n2] at this; cases this
  · intro hc x hx1 hx2
    refine n3 x hx1 ?_
    by_cases hlt : nextBDay d < monthStart (k + 1)
    · exact absurd ⟨by omega, hlt⟩ hc
    · omega

/-- `isBMonthEnd d` ⇔ `d` is a Monday–Friday date and every later date of its month is a weekend day.
Months: `findMonth d = (k, monthStart k)` with `monthStart k ≤ d < monthStart (k+1)`. -/
theorem C13_eom_last (d : Int) (hd : M0 ≤ d) :
    ∃ k, findMonth d = (k, monthStart k) ∧ monthStart k ≤ d ∧ d < monthStart (k + 1) ∧
      28 ≤ monthLen k ∧ monthLen k ≤ 31 ∧ monthStart (k + 1) = monthStart k + monthLen k ∧
      (isBMonthEnd d = true ↔
        isBDay d = true ∧ ∀ x, d < x → x < monthStart (k + 1) → isBDay x = false) := by
  obtain ⟨k, he, hk⟩ := findMonth_spec d hd
  exact ⟨k, he, hk.1, hk.2, (monthLen_bounds k).1, (monthLen_bounds k).2, rfl, isBMonthEnd_iff_last hk⟩

/-- the start itself on a business day, else the same time on the next business day -/
theorem C13_bh (start : Int) :
    buyAndHold start =
      [if isBDay (dayOf start) then start else nextBDay (dayOf start) * 86400 + todOf start] := by
  unfold buyAndHold
  split <;> rfl

/-- on a weekend day, `nextBDay` is the following Monday: the least later business day; and the instant
`nextBDay d * 86400 + todOf start` lies on that date at the start's time of day -/
theorem C13_bh_next (start : Int) (h : isBDay (dayOf start) = false) :
    let m := nextBDay (dayOf start)
    dayOf start < m ∧ m ≤ dayOf start + 2 ∧ weekday m = 0 ∧ isBDay m = true ∧
    (∀ x, dayOf start < x → x < m → isBDay x = false) ∧
    dayOf (m * 86400 + todOf start) = m ∧ todOf (m * 86400 + todOf start) = todOf start := by
  intro m
  obtain ⟨n1, n2, n3⟩ := nextBDay_spec (dayOf start)
  rw [not_isBDay_iff, weekday] at h
  -- Saturday + 2 or Sunday + 1
  have hm : m = nextBDay (dayOf start) := rfl
  simp only [nextBDay, weekday] at hm
  refine ⟨n1, by omega, by unfold weekday; omega, n2, n3, ?_, ?_⟩
  · generalize m = a; unfold dayOf todOf; omega
  · generalize m = a; unfold todOf; omega

theorem C13_bh_bday (start : Int) (h : isBDay (dayOf start) = true) : buyAndHold start = [start] := by
  rw [C13_bh, if_pos h]

theorem C13_stamp_values : CLOSE = 21 * 3600 ∧ OPEN = 14 * 3600 + 30 * 60 := ⟨rfl, rfl⟩

theorem C13_stamp_weekly (start end_ : Int) (s : String) (pre : Bool) (l : List Int)
    (h : weeklyRebalances start end_ s pre = .ok l) (x : Int) (hx : x ∈ l) :
    todOf x = if pre then OPEN else CLOSE := by
  obtain ⟨k, rfl, _⟩ := weeklyRebalances_ok h; exact todOf_of_mem_sched hx

theorem C13_stamp_daily (start end_ : Int) (pre : Bool) (x : Int) (hx : x ∈ dailyRebalances start end_ pre) :
    todOf x = if pre then OPEN else CLOSE := by
  rw [dailyRebalances_eq] at hx; exact todOf_of_mem_sched hx

theorem C13_stamp_eom (start end_ : Int) (pre : Bool) (x : Int) (hx : x ∈ eomRebalances start end_ pre) :
    todOf x = if pre then OPEN else CLOSE := by
  obtain ⟨d, _, rfl⟩ := List.mem_map.1 hx; exact todOf_stamp pre d

theorem C13_sorted_weekly (start end_ : Int) (s : String) (pre : Bool) (l : List Int)
    (h : weeklyRebalances start end_ s pre = .ok l) : l.Pairwise (· < ·) := by
  obtain ⟨k, rfl, _⟩ := weeklyRebalances_ok h; exact sched_pairwise ..

theorem C13_sorted_daily (start end_ : Int) (pre : Bool) : (dailyRebalances start end_ pre).Pairwise (· < ·) := by
  rw [dailyRebalances_eq]; exact sched_pairwise ..

theorem C13_sorted_eom (start end_ : Int) (pre : Bool) (h0 : M0 ≤ dayOf start) :
    (eomRebalances start end_ pre).Pairwise (· < ·) := by
  rw [eomRebalances_eq start end_ pre h0]; exact sched_pairwise ..

/-- each range schedule is strictly increasing (buy-and-hold is a single instant) -/
theorem C13_sorted (start end_ : Int) (s : String) (pre : Bool) (h0 : M0 ≤ dayOf start) :
    (∀ l, weeklyRebalances start end_ s pre = .ok l → l.Pairwise (· < ·)) ∧
    (dailyRebalances start end_ pre).Pairwise (· < ·) ∧
    (eomRebalances start end_ pre).Pairwise (· < ·) ∧
    (buyAndHold start).length = 1 :=
  ⟨fun l h => C13_sorted_weekly start end_ s pre l h, C13_sorted_daily start end_ pre,
    C13_sorted_eom start end_ pre h0, by rw [C13_bh]; rfl⟩

/-- every instant of a range schedule is stamped 21:00 UTC (14:30 when `pre`) -/
theorem C13_stamp (start end_ : Int) (s : String) (pre : Bool) (x : Int)
    (hx : (∃ l, weeklyRebalances start end_ s pre = .ok l ∧ x ∈ l) ∨ x ∈ dailyRebalances start end_ pre ∨
      x ∈ eomRebalances start end_ pre) :
    todOf x = if pre then OPEN else CLOSE := by
  rcases hx with ⟨l, hl, hx⟩ | hx | hx
  · exact C13_stamp_weekly start end_ s pre l hl x hx
  · exact C13_stamp_daily start end_ pre x hx
  · exact C13_stamp_eom start end_ pre x hx

/-! ## Every scheduled instant meets a clock event -/

/-- for any `start ≤ end` (the time-of-day precondition is not needed: both
ranges keep the start's time of day) -/
theorem C13_meets_weekly (start end_ : Int) (s : String) (pre spre spost : Bool) (l : List Int)
    (hle : start ≤ end_) (h : weeklyRebalances start end_ s pre = .ok l) (x : Int) (hx : x ∈ l) :
    ∃ evs, simEvents start end_ spre spost = .ok evs ∧
      ∃ e ∈ evs, e.time = x ∧ e.kind = (if pre then EvKind.marketOpen else EvKind.marketClose) := by
  obtain ⟨k, rfl, hk⟩ := weeklyRebalances_ok h
  exact sched_meets start end_ (fun d _ => hk d) pre spre spost hle hx

/-- needs the end's time of day not before the start's — otherwise the clock
drops the end date while the (normalised) daily schedule keeps it -/
theorem C13_meets_daily (start end_ : Int) (pre spre spost : Bool)
    (hle : start ≤ end_) (htod : todOf start ≤ todOf end_) (x : Int) (hx : x ∈ dailyRebalances start end_ pre) :
    ∃ evs, simEvents start end_ spre spost = .ok evs ∧
      ∃ e ∈ evs, e.time = x ∧ e.kind = (if pre then EvKind.marketOpen else EvKind.marketClose) := by
  rw [dailyRebalances_eq, ← hiOf_eq start end_ htod] at hx
  exact sched_meets start end_ (fun _ _ h => h) pre spre spost hle hx

/-- needs `M0 ≤ dayOf start` (months are counted from 1600) and, like the weekly case, no time-of-day precondition -/
theorem C13_meets_eom (start end_ : Int) (pre spre spost : Bool)
    (hle : start ≤ end_) (h0 : M0 ≤ dayOf start) (x : Int) (hx : x ∈ eomRebalances start end_ pre) :
    ∃ evs, simEvents start end_ spre spost = .ok evs ∧
      ∃ e ∈ evs, e.time = x ∧ e.kind = (if pre then EvKind.marketOpen else EvKind.marketClose) := by
  rw [eomRebalances_eq start end_ pre h0] at hx
  exact sched_meets start end_ (fun d hd => isBDay_of_isBMonthEnd (by omega)) pre spre spost hle hx

/-- with `pre = false` and a clock without pre/post events: every weekly, daily and end-of-month instant is the time
of a market-close event of the clock for the same range -/
theorem C13_meets (start end_ : Int) (s : String) (hle : start ≤ end_) (htod : todOf start ≤ todOf end_) (x : Int) :
    ((∃ l, weeklyRebalances start end_ s false = .ok l ∧ x ∈ l) ∨ x ∈ dailyRebalances start end_ false ∨
      (M0 ≤ dayOf start ∧ x ∈ eomRebalances start end_ false)) →
    ∃ evs, simEvents start end_ false false = .ok evs ∧
      ∃ e ∈ evs, e.time = x ∧ e.kind = EvKind.marketClose := by
  rintro (⟨l, hl, hx⟩ | hx | ⟨h0, hx⟩)
  · exact C13_meets_weekly start end_ s false false false l hle hl x hx
  · exact C13_meets_daily start end_ false false false hle htod x hx
  · exact C13_meets_eom start end_ false false false hle h0 x hx

/-! ## Non-vacuity -/

section Examples

/-! Dates are day numbers since 1970-01-01.  The `*_closed` lemmas of `Lemmas/Calendar.lean` take the index of the month
(counted from 1600-01 = 0, i.e. `(year - 1600) * 12 + month - 1`): February 2020 is 5041, March 2020 is 5042,
March 2019 is 5030. -/

/-- the hypotheses of `C13_weekly` are satisfiable; lower-case names are accepted -/
example : parseWeekday "wed" = some 2 ∧ parseWeekday "FRI" = some 4 ∧ parseWeekday "Sat" = none ∧
    parseWeekday "" = none := by decide +kernel

/-- 2020-02-24 (Mon, day 18316) 09:00 … 2020-03-31 (Tue, day 18352) 17:00.
Wednesdays: 02-26, 03-04, 03-11, 03-18, 03-25 (days 18318 + 7 i). -/
example :
    let start : Int := 18316 * 86400 + 32400
    let end_ : Int := 18352 * 86400 + 61200
    start ≤ end_ ∧ todOf start ≤ todOf end_ ∧ M0 ≤ dayOf start ∧
    ((dateRangeDays (fun d => decide (weekday d = 2)) (fun d => d + ((2 - weekday d - 1) % 7 + 1)) start end_).map
        (stamp false)) =
      [18318 * 86400 + 75600, 18325 * 86400 + 75600, 18332 * 86400 + 75600, 18339 * 86400 + 75600,
       18346 * 86400 + 75600] ∧
    -- month ends: February 2020 ends on Saturday 02-29 (day 18321) so its business month end is Friday 02-28
    -- (day 18320); March ends on Tuesday 03-31 (day 18352)
    weekday 18321 = 5 ∧ isBMonthEnd 18321 = false ∧
    eomRebalances start end_ false = [18320 * 86400 + 75600, 18352 * 86400 + 75600] ∧
    eomRebalances start end_ true = [18320 * 86400 + 52200, 18352 * 86400 + 52200] := by
  refine ⟨by decide, by decide, by decide, by decide +kernel, by decide +kernel,
    by rw [isBMonthEnd_closed 5041] <;> decide,
    by rw [eomRebalances, bmeRangeDays_closed 5041] <;> decide,
    by rw [eomRebalances, bmeRangeDays_closed 5041] <;> decide⟩

/-- weekly through the public function (the weekday name is evaluated by the kernel) -/
example : ∃ l, weeklyRebalances (18316 * 86400 + 32400) (18330 * 86400 + 61200) "wed" false = .ok l ∧
    l = [18318 * 86400 + 75600, 18325 * 86400 + 75600] := by
  have hp : parseWeekday "wed" = some 2 := by decide +kernel
  refine ⟨_, C13_weekly _ _ "wed" 2 false (by decide) hp, by rfl⟩

/-- 2019-03-31 is a Sunday (day 17986): the business month end of March 2019 is Friday 03-29 (day 17984);
a range 03-28 … 04-01 contains it and nothing else; the daily schedule skips the weekend. -/
example :
    weekday 17986 = 6 ∧ bmeRangeDays (17983 * 86400) (17987 * 86400) = [17984] ∧
    dailyRebalances (17983 * 86400 + 100) (17987 * 86400 + 5) false =
      [17983 * 86400 + 75600, 17984 * 86400 + 75600, 17987 * 86400 + 75600] := by
  refine ⟨by decide +kernel, by rw [bmeRangeDays_closed 5030] <;> decide, by decide +kernel⟩

/-- buy and hold from Saturday 2020-02-29 10:00 → Monday 2020-03-02 10:00; from Friday → itself -/
example : buyAndHold (18321 * 86400 + 36000) = [18323 * 86400 + 36000] ∧
    buyAndHold (18320 * 86400 + 36000) = [18320 * 86400 + 36000] := by
  refine ⟨by rfl, by rfl⟩

/-- both sides of `C13_eom_char` evaluated on concrete days (they agree): 2020-02-28 (Fri) is a month end and its
next business day lies in March; 2020-02-27 (Thu) is not and its next business day lies in February -/
example : isBMonthEnd 18320 = true ∧ (findMonth (nextBDay 18320)).1 = 5042 ∧ (findMonth 18320).1 = 5041 ∧
    isBMonthEnd 18319 = false ∧ (findMonth (nextBDay 18319)).1 = (findMonth 18319).1 := by
  refine ⟨by rw [isBMonthEnd_closed 5041] <;> decide, by rw [findMonth_closed 5042] <;> decide,
    by rw [findMonth_closed 5041] <;> decide, by rw [isBMonthEnd_closed 5041] <;> decide,
    by rw [findMonth_closed 5041, findMonth_closed 5041] <;> decide⟩

end Examples

end Qs.C13
