import QsProofs.Lemmas.Holdings
import QsProofs.Lemmas.HoldingsBroker
import Mathlib.Data.Rat.Floor

/-!
# C02 — Holdings equal the net of all fills and are valued at the latest price

For every valid event list `es` (fills and price marks, see `Qs.C02.Valid`) applied with the model's own
`Portfolio.transactAsset` / `Portfolio.mark` to a portfolio `p0` that holds nothing
(`p0.positions = []`, e.g. `Portfolio.new id t0`; cash and history arbitrary) whose clock is `≤ c`:

* `C02_no_error`      no step raises;
* `C02_quantity`      quantity of `a` = signed sum of all fills of `a`; absent ⇒ the sum is `0`;
* `C02_membership`    `a` is in the dictionary ⇔ that sum is non-zero; keys are pairwise distinct;
* `C02_last_price`    the stored price is `lastSeen a es`;
* `C02_value`         market value = Σ net·price = Σ_{a held} (Σ fills)·lastSeen; equity = value + cash.

`run_ok` (`QsProofs/Lemmas/Holdings.lean`), of which these are projections, starts from ANY portfolio
satisfying the invariants `WF`/`Tracks`.
-/

namespace Qs.C02

section
variable {α : Type} [Field α] [LinearOrder α] [IsStrictOrderedRing α] [FloorRing α] [NumOps α] [LawfulNumOps α]

theorem run_empty (p0 : Portfolio α) (c : Int) (es : List (PEv α))
    (hempty : p0.positions = []) (hclock : p0.clock ≤ c) (hv : Valid c es) :
    NoErr p0 es ∧ (∃ c', WF (run p0 es) c') ∧ Tracks (run p0 es) (fun a => seen a es) :=
  run_ok es p0 c (fun _ => (0, none)) (WF_of_empty hempty hclock) (Tracks_of_empty hempty) hv

theorem C02_no_error (p0 : Portfolio α) (c : Int) (es : List (PEv α))
    (hempty : p0.positions = []) (hclock : p0.clock ≤ c) (hv : Valid c es) :
    NoErr p0 es :=
  (run_empty p0 c es hempty hclock hv).1

/-- **C02 (quantity).** The quantity held in `a` is the signed sum of all quantities filled in `a`;
if `a` is not in the dictionary that sum is zero. -/
theorem C02_quantity (p0 : Portfolio α) (c : Int) (es : List (PEv α))
    (hempty : p0.positions = []) (hclock : p0.clock ≤ c) (hv : Valid c es) (a : String) :
    (∀ pos, (run p0 es).positions.find? a = some pos → pos.net = ((fillSum a es : Int) : α)) ∧
    ((run p0 es).positions.find? a = none → fillSum a es = 0) := by
  obtain ⟨_, _, htr⟩ := run_empty p0 c es hempty hclock hv
  rw [← seen_fst]
  exact ⟨fun pos hf => ((htr a).1 pos hf).1, (htr a).2⟩

/-- **C02 (membership).** `a` appears in the holdings iff the signed sum of its fills is non-zero. -/
theorem C02_membership (p0 : Portfolio α) (c : Int) (es : List (PEv α))
    (hempty : p0.positions = []) (hclock : p0.clock ≤ c) (hv : Valid c es) (a : String) :
    (run p0 es).positions.contains a = true ↔ fillSum a es ≠ 0 := by
  obtain ⟨_, _, htr⟩ := run_empty p0 c es hempty hclock hv
  rw [Positions.contains_iff_mem_keys, mem_keys_iff_ghost _ _ htr a, seen_fst]

/-- **C02 (dictionary invariant).** Asset keys are pairwise distinct: no duplicates in the report. -/
theorem C02_keys_nodup (p0 : Portfolio α) (c : Int) (es : List (PEv α))
    (hempty : p0.positions = []) (hclock : p0.clock ≤ c) (hv : Valid c es) :
    ((run p0 es).positions.map (·.asset)).Nodup := by
  obtain ⟨_, ⟨_, hwf⟩, _⟩ := run_empty p0 c es hempty hclock hv
  exact hwf.nodup

/-- **C02 (latest price).** The price stored for a held asset is the price of the last event that is
a fill of `a` or a mark of `a` made while `a` was held (`lastSeen`, characterised by the
`lastSeen_snoc_*` equations). -/
theorem C02_last_price (p0 : Portfolio α) (c : Int) (es : List (PEv α))
    (hempty : p0.positions = []) (hclock : p0.clock ≤ c) (hv : Valid c es) (a : String)
    (pos : Position α) (hf : (run p0 es).positions.find? a = some pos) :
    lastSeen a es = some pos.price := by
  obtain ⟨_, _, htr⟩ := run_empty p0 c es hempty hclock hv
  exact ((htr a).1 pos hf).2.2

/-- the value identity for ANY duplicate-free enumeration `L` of the assets with non-zero fill sum -/
theorem C02_value_any_enumeration (p0 : Portfolio α) (c : Int) (es : List (PEv α))
    (hempty : p0.positions = []) (hclock : p0.clock ≤ c) (hv : Valid c es)
    (L : List String) (hL : L.Nodup) (hmem : ∀ a, a ∈ L ↔ fillSum a es ≠ 0) :
    (run p0 es).totalMarketValue
        = (L.map (fun a => ((fillSum a es : Int) : α) * (lastSeen a es).getD 0)).sum := by
  obtain ⟨_, ⟨c', hwf⟩, htr⟩ := run_empty p0 c es hempty hclock hv
  have h := totalMarketValue_ghost (run p0 es) c' (fun a => seen a es) hwf htr L hL
    (fun a => by rw [hmem, seen_fst])
  rw [h]
  congr 1
  apply List.map_congr_left
  intro a _
  simp only [ghostValue, seen_fst, lastSeen]

/-- **C02 (value).** Market value is the sum over the dictionary of `net * price`, which is the sum
over the held assets (`heldAssets es`: non-zero fill sum, each once) of fill-sum × last seen price;
equity is market value plus cash. -/
theorem C02_value (p0 : Portfolio α) (c : Int) (es : List (PEv α))
    (hempty : p0.positions = []) (hclock : p0.clock ≤ c) (hv : Valid c es) :
    (run p0 es).totalMarketValue
        = ((run p0 es).positions.map (fun pos => pos.net * pos.price)).sum ∧
    (run p0 es).totalMarketValue
        = ((heldAssets es).map
            (fun a => ((fillSum a es : Int) : α) * (lastSeen a es).getD 0)).sum ∧
    (run p0 es).totalEquity = (run p0 es).totalMarketValue + (run p0 es).cash :=
  ⟨totalMarketValue_eq_sum _,
    C02_value_any_enumeration p0 c es hempty hclock hv _ (heldAssets_nodup es) (mem_heldAssets es), rfl⟩

/-! ## Lift to the broker: the marks of `Broker.update`

Domain (`BWF b t`): portfolio ids pairwise distinct; in every portfolio the asset keys are pairwise
distinct and the portfolio clock and all position clocks are `≤ t`.  Quotes: every quoted held asset
has a positive mid `(bid + ask) / 2`. -/

/-- **C02 (mark targets).** `markTargets` is, portfolio by portfolio in insertion order, the held
assets that have a quote in dictionary order, each with its mid price; the `(portfolio, asset)` keys
of the targets are pairwise distinct (exactly one target per slot); when every held asset has a quote
the list has exactly one entry per (portfolio, held asset). -/
theorem C02_markTargets (b : Broker α) (q : Quotes α) :
    b.markTargets q = b.entries.flatMap (fun e =>
      (e.pf.positions.filter (fun pos => (q pos.asset).isSome)).map
        (fun pos => (e.pf.id, pos.asset, mid q pos.asset))) ∧
    (∀ t, BWF b t → ((b.markTargets q).map (fun m => (m.1, m.2.1))).Nodup) ∧
    ((∀ e ∈ b.entries, ∀ pos ∈ e.pf.positions, (q pos.asset).isSome = true) →
      b.markTargets q = b.entries.flatMap (fun e =>
        e.pf.positions.map (fun pos => (e.pf.id, pos.asset, mid q pos.asset)))) :=
  ⟨markTargets_eq b q, fun t hb => markTargets_keys_nodup b q t hb,
    markTargets_eq_of_all_quoted b q⟩

/-- **C02 (effect of one mark).** In the domain (`WF p t`: clocks `≤ t`, distinct keys; `0 < pr`) a
mark raises nothing, changes no quantity (nor any field other than `price`/`clock` of the marked
asset), sets the marked position's price to `pr` and clock to `t`, and leaves cash alone. -/
theorem C02_mark_effect (p : Portfolio α) (t : Int) (hwf : WF p t) (a : String) (pr : α)
    (hp : 0 < pr) :
    ∃ p', p.mark a pr t = (p', none) ∧ p'.cash = p.cash ∧
      p'.positions.map (fun x => (x.asset, x.buyQ, x.sellQ, x.avgB, x.avgS, x.comB, x.comS))
        = p.positions.map (fun x => (x.asset, x.buyQ, x.sellQ, x.avgB, x.avgS, x.comB, x.comS)) ∧
      (∀ pos, p.positions.find? a = some pos →
        p'.positions.find? a = some { pos with clock := t, price := pr }) ∧
      (∀ b, b ≠ a → p'.positions.find? b = p.positions.find? b) := by
  refine ⟨_, mark_map_form p t hwf a hp, rfl, ?_, fun pos hf => ?_, fun b hb => ?_⟩
  · show List.map _ (List.map (upd a pr t) p.positions) = _
    rw [List.map_map]
    exact List.map_congr_left fun x _ => upd_fields a pr t x
  · show Positions.find? (p.positions.map (upd a pr t)) a = _
    rw [find?_map_upd, if_pos rfl, hf]; rfl
  · show Positions.find? (p.positions.map (upd a pr t)) b = _
    rw [find?_map_upd, if_neg hb]

/-- **C02 (marks phase of `update`).** In the domain the marks raise nothing and the broker after
them is the old broker with clock `t` and every quoted held position re-priced at the mid and stamped
`t` (`markEntry`/`markPos`: nothing else changes — no quantity, no cash, no order queue); if the
exchange is closed at `t` that is the result of `update`. -/
theorem C02_update_marks_phase (b : Broker α) (t : Int) (q : Quotes α) (hb : BWF b t)
    (hpos : ∀ e ∈ b.entries, ∀ pos ∈ e.pf.positions, ∀ bid ask,
      q pos.asset = some (bid, ask) → 0 < (bid + ask) / 2) :
    Broker.runUntilErr (fun b (m : String × String × α) => b.applyMark m.1 m.2.1 m.2.2 t)
        { b with clock := t } (Broker.markTargets { b with clock := t } q)
      = ({ b with clock := t, entries := b.entries.map (markEntry q t) }, none) ∧
    (isOpen t = false →
      b.update t q = ({ b with clock := t, entries := b.entries.map (markEntry q t) }, none)) := by
  refine ⟨marks_phase b t q hb hpos, fun hclosed => ?_⟩
  rw [update_dom b t q hb hpos, hclosed]
  rfl

/-- **C02 (update marks).** After `Broker.update b t q` (exchange open or closed, whether or not the
order phase raises), every held position `(pid, a)` whose asset has a quote and for which no order is
queued (so it is not filled in this update) is the old position with `price = (bid + ask) / 2` and
`clock = t` — in particular its quantity is unchanged. -/
theorem C02_update_marks (b : Broker α) (t : Int) (q : Quotes α) (hb : BWF b t)
    (hpos : ∀ e ∈ b.entries, ∀ pos ∈ e.pf.positions, ∀ bid ask,
      q pos.asset = some (bid, ask) → 0 < (bid + ask) / 2)
    (pid a : String) (pos : Position α) (bid ask : α)
    (hheld : posOf b pid a = some pos) (hq : q a = some (bid, ask))
    (hnofill : ∀ x ∈ b.drained, ¬ (x.1 = pid ∧ x.2.asset = a)) :
    posOf (b.update t q).1 pid a = some { pos with clock := t, price := (bid + ask) / 2 } := by
  have hasset : pos.asset = a := posOf_asset hheld
  have hmarked : posOf { b with clock := t, entries := b.entries.map (markEntry q t) } pid a
      = some { pos with clock := t, price := (bid + ask) / 2 } := by
    rw [posOf_marked, hheld]
    simp only [Option.map_some, markPos, hasset, hq]
  rw [update_dom b t q hb hpos]
  by_cases ho : isOpen t = true
  · rw [if_pos ho, posOf_runOrders_ne, posOf_clearQueues, hmarked]
    intro x hx
    rw [mem_sellsFirst, drained_marked] at hx
    intro h
    exact hnofill x hx ⟨h.1.symm, h.2.symm⟩
  · rw [if_neg ho]; exact hmarked

end

/-! ## Non-vacuity at `ℚ` -/

section nonvacuity

noncomputable local instance (priority := high) ratOps : NumOps ℚ := fieldNumOps ℚ
local instance (priority := high) ratLawful : LawfulNumOps ℚ := fieldNumOps_lawful ℚ

/-- buy 10 A, mark A, short 5 B, sell 10 A (close to exactly zero), mark A while not held (ignored),
buy 3 A (re-open), sell 7 A (flip long → short in one fill), mark B. -/
def exEvents : List (PEv ℚ) :=
  [ .fill { asset := "A", qty := 10, time := 1, price := 100, commission := 1 },
    .mark "A" 101 2,
    .fill { asset := "B", qty := -5, time := 2, price := 50, commission := 0 },
    .fill { asset := "A", qty := -10, time := 3, price := 102, commission := 1 },
    .mark "A" 99 4,
    .fill { asset := "A", qty := 3, time := 5, price := 98, commission := 1/2 },
    .fill { asset := "A", qty := -7, time := 6, price := 97, commission := 1/2 },
    .mark "B" 51 7 ]

theorem exEvents_valid : Valid 0 exEvents := by
  simp only [exEvents, Valid, PEv.Ok, PEv.time]
  decide +kernel

example : fillSum "A" exEvents = -4 ∧ fillSum "B" exEvents = -5 ∧ fillSum "C" exEvents = 0 := by
  decide

/-- the running sum of A is exactly zero after the fourth event (close), and the mark that follows
is ignored: the price seen for A stays that of the closing fill until the re-opening fill -/
example : fillSum "A" (exEvents.take 4) = 0 ∧ lastSeen "A" (exEvents.take 5) = some 102 ∧
    fillSum "A" (exEvents.take 6) = 3 ∧ fillSum "A" (exEvents.take 7) = -4 := by
  refine ⟨by decide, ?_, by decide, by decide⟩
  decide

example : lastSeen "A" exEvents = some 97 ∧ lastSeen "B" exEvents = some 51 := by
  constructor <;> decide

example : heldAssets exEvents = ["B", "A"] := by decide

/-- the theorems instantiated on the example: A is held short 4 at 97, B short 5 at 51, C absent -/
example : NoErr (Portfolio.new "p" 0 : Portfolio ℚ) exEvents :=
  C02_no_error _ 0 exEvents rfl (le_refl _) exEvents_valid

example : (run (Portfolio.new "p" 0 : Portfolio ℚ) exEvents).positions.contains "A" = true :=
  (C02_membership _ 0 exEvents rfl (le_refl _) exEvents_valid "A").mpr (by decide)

example : (run (Portfolio.new "p" 0 : Portfolio ℚ) exEvents).positions.contains "C" = false := by
  have h := (C02_membership (Portfolio.new "p" 0 : Portfolio ℚ) 0 exEvents rfl (le_refl _)
    exEvents_valid "C").not
  simpa using h.mpr (by decide)

example : (run (Portfolio.new "p" 0 : Portfolio ℚ) exEvents).totalMarketValue
    = (-4) * 97 + (-5) * 51 := by
  have h := (C02_value (Portfolio.new "p" 0 : Portfolio ℚ) 0 exEvents rfl (le_refl _)
    exEvents_valid).2.1
  rw [h]
  decide +kernel

/-! ### broker lift -/

def exPosA : Position ℚ :=
  { asset := "A", price := 100, clock := 3, buyQ := 10, sellQ := 0, avgB := 100, avgS := 0,
    comB := 1, comS := 0 }

def exPosB : Position ℚ :=
  { asset := "B", price := 50, clock := 5, buyQ := 0, sellQ := 5, avgB := 0, avgS := 50,
    comB := 0, comS := 0 }

/-- two portfolios; `p1` holds A (long 10) and B (short 5) and has an order for B queued -/
noncomputable def exBroker : Broker ℚ :=
  { clock := 5, master := 0, fee := .zero,
    entries := [ { pf := { id := "p1", clock := 5, cash := 0, positions := [exPosA, exPosB] },
                   queue := [ { id := 1, asset := "B", qty := 5 } ] },
                 { pf := Portfolio.new "p2" 0 } ] }

def exQuotes : Quotes ℚ := fun a =>
  if a = "A" then some (99, 103) else if a = "B" then some (49, 51) else none

theorem exBroker_BWF : BWF exBroker 10 := by
  constructor
  · decide
  · intro e he
    simp only [exBroker, List.mem_cons, List.not_mem_nil, or_false] at he
    rcases he with rfl | rfl
    · refine ⟨by decide, ?_, by decide⟩
      intro pos hp
      simp only [List.mem_cons, List.not_mem_nil, or_false] at hp
      rcases hp with rfl | rfl <;> decide
    · exact ⟨by decide, (by intro pos hp; cases hp), by decide⟩

theorem exQuotes_pos : ∀ e ∈ exBroker.entries, ∀ pos ∈ e.pf.positions, ∀ bid ask,
    exQuotes pos.asset = some (bid, ask) → 0 < (bid + ask) / 2 := by
  intro e he pos hp bid ask hq
  simp only [exBroker, List.mem_cons, List.not_mem_nil, or_false] at he
  rcases he with rfl | rfl
  · simp only [List.mem_cons, List.not_mem_nil, or_false] at hp
    rcases hp with rfl | rfl
    · have : exQuotes exPosA.asset = some (99, 103) := by decide
      rw [this] at hq; cases hq; norm_num
    · have : exQuotes exPosB.asset = some (49, 51) := by decide
      rw [this] at hq; cases hq; norm_num
  · cases hp

/-- A is held in `p1`, quoted, and has no queued order: after `update` at `t = 10` (whatever the
exchange hours) it is the same position priced at the mid 101 with clock 10 -/
example : posOf (exBroker.update 10 exQuotes).1 "p1" "A"
    = some { exPosA with clock := 10, price := (99 + 103) / 2 } :=
  C02_update_marks exBroker 10 exQuotes exBroker_BWF exQuotes_pos "p1" "A" exPosA 99 103
    (by simp [posOf, Broker.find?, exBroker, Positions.find?, exPosA]) (by decide) (by decide)

example : (exBroker.markTargets exQuotes).map (fun m => (m.1, m.2.1)) = [("p1", "A"), ("p1", "B")] := by
  rw [(C02_markTargets exBroker exQuotes).1]
  decide

end nonvacuity
end Qs.C02
