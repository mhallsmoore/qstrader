import QsProofs.Lemmas.Market
import QsProofs.Lemmas.AssocList
import Mathlib.Data.Rat.Floor

/-!
# C06 — Market data is point-in-time: a price query never sees a later bar

The pipeline theorems hold for **every** value type `α` carrying the notation classes (so for the field
carrier, for `Rat` and for `Float`): the only arithmetic is the adjusted open `(adj / close) * open`, which is
kept opaque — the theorems say *which row's value* is returned.  `IsLatest rows t r` / `NoneObserved rows t`
(`QsProofs/Lemmas/Market.lean`) are the specification: `r` is the latest row with a non-missing value at or
before `t` / no row at or before `t` has a value.  They are stated over `bars.flatMap (expandBar adjust)`,
the expanded rows **in file order** (no sort).

Domain: bar files with pairwise distinct dates (`bars.Pairwise (fun a b => a.day ≠ b.day)`), any number of
rows, gaps, any row order, any missing cells, adjusted or not; every query instant `t : Int`.
-/

-- the theorems carry the model's notation classes as one block
set_option linter.unusedSectionVars false

namespace Qs

section
variable {α : Type} [Add α] [Sub α] [Mul α] [Div α] [Neg α] [NumOps α]

/-- With `rows` the expanded open/close rows of the file (any order): the answer is the value of
the latest observed row at or before `t`; it is `none` (NaN) when nothing is observed at or before `t`; and
exactly one of the two cases applies. -/
theorem C06_char (adjust : Bool) (bars : List (Bar α)) (t : Int)
    (hd : bars.Pairwise (fun a b => a.day ≠ b.day)) :
    let rows := bars.flatMap (expandBar adjust)
    (∀ r, IsLatest rows t r → barLookup adjust bars t = r.val) ∧
    (NoneObserved rows t → barLookup adjust bars t = none) ∧
    ((∃ r, IsLatest rows t r) ∨ NoneObserved rows t) ∧
    ¬ ((∃ r, IsLatest rows t r) ∧ NoneObserved rows t) :=
  ⟨fun r h => barLookup_latest adjust bars t hd r h,
   barLookup_noneObserved adjust bars t,
   latest_or_none _ t,
   fun ⟨⟨r, h⟩, hn⟩ => by have := h.2.2.1; rw [hn r h.1 h.2.1] at this; cases this⟩

/-- `C06_char` as equivalences: a value `v` is returned iff the latest observed row at or before `t` carries
`v`; NaN is returned iff no row at or before `t` is observed. -/
theorem C06_char_iff (adjust : Bool) (bars : List (Bar α)) (t : Int)
    (hd : bars.Pairwise (fun a b => a.day ≠ b.day)) :
    (∀ v, barLookup adjust bars t = some v ↔
        ∃ r, IsLatest (bars.flatMap (expandBar adjust)) t r ∧ r.val = some v) ∧
    (barLookup adjust bars t = none ↔ NoneObserved (bars.flatMap (expandBar adjust)) t) := by
  obtain ⟨h1, h2, h3, h4⟩ := C06_char adjust bars t hd
  rcases h3 with ⟨r, hr⟩ | hn
  · -- a latest observed row exists: the answer is its value, and that is present
    obtain ⟨w, hw⟩ := Option.isSome_iff_exists.mp hr.2.2.1
    have hb := h1 r hr
    exact ⟨fun v => ⟨fun hv => ⟨r, hr, by rw [← hb]; exact hv⟩, fun ⟨r', hr', hv⟩ => by rw [h1 r' hr', hv]⟩,
      fun hv => (by rw [hb, hw] at hv; cases hv), fun hn => absurd ⟨⟨r, hr⟩, hn⟩ h4⟩
  · have hb := h2 hn
    exact ⟨fun v => ⟨fun hv => (by rw [hb] at hv; cases hv), fun ⟨r', hr', _⟩ => absurd ⟨⟨r', hr'⟩, hn⟩ h4⟩,
      fun _ => hn, fun _ => hb⟩

/-- Let `b` be the bar with the greatest day among those opened at or before `t`.
If the row of `b` that is consulted (its open row before its 21:00 close, else its close row) is present, the
answer is that row's value; `o`, `c` are the two values `expandBar adjust b` produces. Missing cells elsewhere in
the file are irrelevant. -/
theorem C06_char_at_bar (adjust : Bool) (bars : List (Bar α)) (t : Int)
    (hd : bars.Pairwise (fun a b => a.day ≠ b.day)) (b : Bar α) (hb : b ∈ bars)
    (hbt : b.day * 86400 + OPEN ≤ t)
    (hmax : ∀ b' ∈ bars, b'.day * 86400 + OPEN ≤ t → b'.day ≤ b.day)
    (o c : Option α)
    (he : expandBar adjust b = [⟨b.day * 86400 + OPEN, o⟩, ⟨b.day * 86400 + CLOSE, c⟩])
    (hobs : (if t < b.day * 86400 + CLOSE then o else c).isSome) :
    barLookup adjust bars t = if t < b.day * 86400 + CLOSE then o else c := by
  have hmem : ∀ r ∈ expandBar adjust b, r ∈ bars.flatMap (expandBar adjust) :=
    fun r hr => List.mem_flatMap.mpr ⟨b, hb, hr⟩
  have hbound : ∀ r' ∈ bars.flatMap (expandBar adjust), r'.time ≤ t →
      r'.time ≤ b.day * 86400 + CLOSE ∧
        (r'.time ≤ b.day * 86400 + OPEN ∨ r'.time = b.day * 86400 + CLOSE) := by
    intro r' hr' hr't
    obtain ⟨b', hb', hrb'⟩ := List.mem_flatMap.mp hr'
    have h2 := mem_expandBar hrb'
    simp only [OPEN, CLOSE] at h2 hmax ⊢
    have hle := hmax b' hb' (by omega)
    omega
  -- the consulted row of `b`: its open row before its close time, else its close row
  refine barLookup_latest adjust bars t hd
    ⟨if t < b.day * 86400 + CLOSE then b.day * 86400 + OPEN else b.day * 86400 + CLOSE,
      if t < b.day * 86400 + CLOSE then o else c⟩ ⟨hmem _ (by rw [he]; split <;> simp), ?_, hobs, ?_⟩
  · dsimp only
    omega
  · intro r' hr' hr't _
    have := hbound r' hr' hr't
    dsimp only
    omega

/-- unadjusted: the raw open before the close time, the raw close from then on. -/
theorem C06_char_dense_raw (bars : List (Bar α)) (t : Int)
    (hd : bars.Pairwise (fun a b => a.day ≠ b.day)) (b : Bar α) (hb : b ∈ bars)
    (hbt : b.day * 86400 + OPEN ≤ t)
    (hmax : ∀ b' ∈ bars, b'.day * 86400 + OPEN ≤ t → b'.day ≤ b.day)
    (o c : α) (ho : b.open_ = some o) (hc : b.close = some c) :
    barLookup false bars t = some (if t < b.day * 86400 + CLOSE then o else c) := by
  rw [C06_char_at_bar false bars t hd b hb hbt hmax (some o) (some c) (by rw [expandBar_false, ho, hc])
    (by split <;> rfl)]
  split <;> rfl

/-- adjusted: `(adj / close) * open` before the close time, `adj` from then on. -/
theorem C06_char_dense_adj (bars : List (Bar α)) (t : Int)
    (hd : bars.Pairwise (fun a b => a.day ≠ b.day)) (b : Bar α) (hb : b ∈ bars)
    (hbt : b.day * 86400 + OPEN ≤ t)
    (hmax : ∀ b' ∈ bars, b'.day * 86400 + OPEN ≤ t → b'.day ≤ b.day)
    (o c a : α) (ho : b.open_ = some o) (hc : b.close = some c) (ha : b.adj = some a) :
    barLookup true bars t = some (if t < b.day * 86400 + CLOSE then (a / c) * o else a) := by
  rw [C06_char_at_bar true bars t hd b hb hbt hmax (some ((a / c) * o)) (some a)
    (by rw [expandBar_true, ho, hc, ha]; rfl) (by split <;> rfl)]
  split <;> rfl

/-- The case where nothing is missing. If every expanded row of the file has a
value and `b` is the bar with the greatest day among those with `b.day*86400+OPEN ≤ t`, then the cells of `b`
that are used are present and the answer is the open value of `b` when `t` precedes its close time, otherwise
its close value — raw `open`/`close` when not adjusting, `(adj/close)*open` / `adj` when adjusting. -/
theorem C06_char_dense (adjust : Bool) (bars : List (Bar α)) (t : Int)
    (hd : bars.Pairwise (fun a b => a.day ≠ b.day))
    (hall : ∀ r ∈ bars.flatMap (expandBar adjust), r.val.isSome)
    (b : Bar α) (hb : b ∈ bars) (hbt : b.day * 86400 + OPEN ≤ t)
    (hmax : ∀ b' ∈ bars, b'.day * 86400 + OPEN ≤ t → b'.day ≤ b.day) :
    ∃ o c : α,
      expandBar adjust b = [⟨b.day * 86400 + OPEN, some o⟩, ⟨b.day * 86400 + CLOSE, some c⟩] ∧
      (adjust = false → b.open_ = some o ∧ b.close = some c) ∧
      (adjust = true → ∃ op cl, b.open_ = some op ∧ b.close = some cl ∧ b.adj = some c ∧ o = (c / cl) * op) ∧
      barLookup adjust bars t = some (if t < b.day * 86400 + CLOSE then o else c) := by
  have hrow : ∀ r ∈ expandBar adjust b, r.val.isSome :=
    fun r hr => hall r (List.mem_flatMap.mpr ⟨b, hb, hr⟩)
  cases adjust with
  | false =>
    rw [expandBar_false] at hrow
    obtain ⟨o, ho⟩ := Option.isSome_iff_exists.mp (hrow ⟨b.day * 86400 + OPEN, b.open_⟩ (by simp))
    obtain ⟨c, hc⟩ := Option.isSome_iff_exists.mp (hrow ⟨b.day * 86400 + CLOSE, b.close⟩ (by simp))
    simp only at ho hc
    refine ⟨o, c, by rw [expandBar_false, ho, hc], fun _ => ⟨ho, hc⟩, fun h => absurd h (by decide), ?_⟩
    exact C06_char_dense_raw bars t hd b hb hbt hmax o c ho hc
  | true =>
    rw [expandBar_true] at hrow
    -- the adjusted open is present only if all three cells are
    obtain ⟨_, h1⟩ := Option.isSome_iff_exists.mp (hrow ⟨_, _⟩ (List.mem_cons_self ..))
    simp only [Option.bind_eq_some_iff, Option.some.injEq] at h1
    obtain ⟨a, ha, cl, hc, op, ho, rfl⟩ := h1
    exact ⟨(a / cl) * op, a, by rw [expandBar_true, ho, hc, ha]; rfl, fun h => absurd h (by decide),
      fun _ => ⟨op, cl, ho, hc, ha, rfl⟩, C06_char_dense_adj bars t hd b hb hbt hmax op cl a ho hc ha⟩

/-- A query before the first bar's open gives NaN, with no hypothesis on the file at all (`padLookup` answers `none`
when no row is at or before `t`: defect F2 of DESIGN §12.5 was that the last bar leaked here). -/
theorem C06_none (adjust : Bool) (bars : List (Bar α)) (t : Int)
    (h : ∀ b ∈ bars, t < b.day * 86400 + OPEN) : barLookup adjust bars t = none :=
  barLookup_before adjust bars t h

/-- The row order in the file is irrelevant. -/
theorem C06_order (adjust : Bool) (bars bars' : List (Bar α)) (t : Int)
    (hd : bars.Pairwise (fun a b => a.day ≠ b.day)) (hp : bars.Perm bars') :
    barLookup adjust bars t = barLookup adjust bars' t :=
  barLookup_bars_causal adjust bars bars' t hd
    (List.Perm.pairwise (R := fun a b => a.day ≠ b.day) hp hd (fun h => Ne.symm h))
    (fun b => by rw [hp.mem_iff])

/-- If two files have the same bars opened at or before `t`, they give the same answer at `t`,
whatever their later bars are. (Per bar, not per cell: the close/adj cells of a bar whose open is `≤ t` enter
its adjusted open.) -/
theorem C06_causal (adjust : Bool) (bars bars' : List (Bar α)) (t : Int)
    (hd : bars.Pairwise (fun a b => a.day ≠ b.day)) (hd' : bars'.Pairwise (fun a b => a.day ≠ b.day))
    (h : ∀ b, (b ∈ bars ∧ b.day * 86400 + OPEN ≤ t) ↔ (b ∈ bars' ∧ b.day * 86400 + OPEN ≤ t)) :
    barLookup adjust bars t = barLookup adjust bars' t :=
  barLookup_bars_causal adjust bars bars' t hd hd' h

/-- Row form (also across adjustment flags): only the *set* of expanded rows dated at or before
`t` matters. -/
theorem C06_causal_rows (adjust adjust' : Bool) (bars bars' : List (Bar α)) (t : Int)
    (hd : bars.Pairwise (fun a b => a.day ≠ b.day)) (hd' : bars'.Pairwise (fun a b => a.day ≠ b.day))
    (h : ∀ r, (r ∈ bars.flatMap (expandBar adjust) ∧ r.time ≤ t) ↔
              (r ∈ bars'.flatMap (expandBar adjust') ∧ r.time ≤ t)) :
    barLookup adjust bars t = barLookup adjust' bars' t :=
  barLookup_rows_causal adjust adjust' bars bars' t hd hd' h

/-- The usual reading: appending or altering bars dated after `t` changes nothing. -/
theorem C06_causal_future (adjust : Bool) (bars later later' : List (Bar α)) (t : Int)
    (hd : (bars ++ later).Pairwise (fun a b => a.day ≠ b.day))
    (hd' : (bars ++ later').Pairwise (fun a b => a.day ≠ b.day))
    (hl : ∀ b ∈ later, t < b.day * 86400 + OPEN) (hl' : ∀ b ∈ later', t < b.day * 86400 + OPEN) :
    barLookup adjust (bars ++ later) t = barLookup adjust (bars ++ later') t := by
  -- bars opened after `t` drop out of the condition of `C06_causal`
  have key : ∀ l : List (Bar α), (∀ b ∈ l, t < b.day * 86400 + OPEN) →
      ∀ b, (b ∈ bars ++ l ∧ b.day * 86400 + OPEN ≤ t) ↔ (b ∈ bars ∧ b.day * 86400 + OPEN ≤ t) := by
    intro l hl b
    rw [List.mem_append]
    exact ⟨fun ⟨h, ht⟩ => ⟨h.resolve_right (fun h => by have := hl b h; omega), ht⟩, fun ⟨h, ht⟩ => ⟨Or.inl h, ht⟩⟩
  exact C06_causal adjust _ _ t hd hd' (fun b => by rw [key later hl, key later' hl'])

/-- `get_bid` raises `KeyError` exactly for an asset the source does not list;
otherwise it is the point-in-time lookup in that asset's file. -/
theorem C06_handler_source (ds : DataSource α) (t : Int) (a : String) :
    (ds.assets.lookup a = none ∧ ds.getBid t a = .error .key) ∨
    (∃ bars, ds.assets.lookup a = some bars ∧ ds.getBid t a = .ok (barLookup ds.adjust bars t)) := by
  cases h : ds.assets.lookup a with
  | none => exact Or.inl ⟨rfl, getBid_of_lookup_none t h⟩
  | some bars => exact Or.inr ⟨bars, rfl, getBid_of_lookup t h⟩

theorem C06_handler_bidask (sources : List (DataSource α)) (t : Int) (a : String) :
    handlerBidAsk sources t a = (handlerBid sources t a).map (fun b => (b, b)) := rfl

/-- any carrier: the mid is `(bid + bid) / 2` as computed, not simplified -/
theorem C06_handler_mid (sources : List (DataSource α)) (t : Int) (a : String) :
    handlerMid sources t a = (handlerBid sources t a).map (fun b => (b + b) / NumOps.ofInt 2) := by
  unfold handlerMid handlerBidAsk
  cases handlerBid sources t a <;> rfl

/-- `handlerBid` is the value of the first source, in list order, that lists the asset
and has an observation: every earlier source raises `KeyError` or returns NaN. -/
theorem C06_handler_bid_some (sources : List (DataSource α)) (t : Int) (a : String) (v : α) :
    handlerBid sources t a = some v ↔
      ∃ pre ds post, sources = pre ++ ds :: post ∧
        (∀ d ∈ pre, d.getBid t a = .error .key ∨ d.getBid t a = .ok none) ∧
        ds.getBid t a = .ok (some v) := by
  rw [handlerBid_eq, List.findSome?_eq_some_iff]
  simp only [srcVal_eq_some, srcVal_eq_none, and_comm]

theorem C06_handler_bid_some_bars (sources : List (DataSource α)) (t : Int) (a : String) (v : α) :
    handlerBid sources t a = some v ↔
      ∃ pre ds post bars, sources = pre ++ ds :: post ∧
        (∀ d ∈ pre, d.assets.lookup a = none ∨
            ∃ bs, d.assets.lookup a = some bs ∧ barLookup d.adjust bs t = none) ∧
        ds.assets.lookup a = some bars ∧ barLookup ds.adjust bars t = some v := by
  rw [C06_handler_bid_some]
  simp only [getBid_eq_error_iff, getBid_eq_ok_iff]
  constructor
  · rintro ⟨pre, ds, post, h1, h2, bars, h3, h4⟩; exact ⟨pre, ds, post, bars, h1, h2, h3, h4⟩
  · rintro ⟨pre, ds, post, bars, h1, h2, h3, h4⟩; exact ⟨pre, ds, post, h1, h2, bars, h3, h4⟩

/-- the bid is NaN iff every source is unknown or unobserved -/
theorem C06_handler_bid_none (sources : List (DataSource α)) (t : Int) (a : String) :
    handlerBid sources t a = none ↔
      ∀ d ∈ sources, d.getBid t a = .error .key ∨ d.getBid t a = .ok none := by
  rw [handlerBid_eq, List.findSome?_eq_none_iff]
  simp only [srcVal_eq_none]

/-- a source that does not list the asset raises `KeyError` and is skipped. -/
theorem C06_handler_skip_unknown (ds : DataSource α) (rest : List (DataSource α)) (t : Int) (a : String)
    (h : ds.assets.lookup a = none) :
    ds.getBid t a = .error .key ∧ handlerBid (ds :: rest) t a = handlerBid rest t a := by
  refine ⟨getBid_of_lookup_none t h, ?_⟩
  rw [handlerBid_cons, srcVal, getBid_of_lookup_none t h]
  rfl

/-- a source whose file has no observation at or before `t` is skipped as well. -/
theorem C06_handler_skip_nan (ds : DataSource α) (rest : List (DataSource α)) (t : Int) (a : String)
    (bars : List (Bar α)) (h : ds.assets.lookup a = some bars) (hn : barLookup ds.adjust bars t = none) :
    handlerBid (ds :: rest) t a = handlerBid rest t a := by
  rw [handlerBid_cons, srcVal, getBid_of_lookup t h, hn]
  rfl

/-- the first source that lists the asset and has an observation answers — with its own
point-in-time lookup. -/
theorem C06_handler_first (ds : DataSource α) (rest : List (DataSource α)) (t : Int) (a : String)
    (bars : List (Bar α)) (v : α) (h : ds.assets.lookup a = some bars)
    (hv : barLookup ds.adjust bars t = some v) :
    handlerBid (ds :: rest) t a = some v := by
  rw [handlerBid_cons, srcVal, getBid_of_lookup t h, hv]
  rfl

/-- one source: the handler's bid *is* the file lookup. -/
theorem C06_handler_single (ds : DataSource α) (t : Int) (a : String) (bars : List (Bar α))
    (h : ds.assets.lookup a = some bars) :
    handlerBid [ds] t a = barLookup ds.adjust bars t := by
  cases hv : barLookup ds.adjust bars t with
  | none => rw [C06_handler_skip_nan ds [] t a bars h hv]; rfl
  | some v => exact C06_handler_first ds [] t a bars v h hv

end

section
variable {α : Type} [Field α] [LinearOrder α] [IsStrictOrderedRing α] [FloorRing α] [NumOps α] [LawfulNumOps α]

/-- over the field carrier `(b + b) / 2 = b` -/
theorem C06_handler_mid_eq_bid (sources : List (DataSource α)) (t : Int) (a : String) :
    handlerMid sources t a = handlerBid sources t a := by
  rw [C06_handler_mid]
  cases handlerBid sources t a with
  | none => rfl
  | some b =>
    simp only [Option.map_some, ofInt_eq, Option.some.injEq]
    push_cast
    exact add_self_div_two b

/-- Bid, ask and mid agree: ask = bid, mid = `(bid + bid) / 2` = bid, and the bid is the
point-in-time lookup of the first source that lists the asset and has an observation. -/
theorem C06_handler (sources : List (DataSource α)) (t : Int) (a : String) :
    handlerBidAsk sources t a = (handlerBid sources t a).map (fun b => (b, b)) ∧
    handlerMid sources t a = (handlerBid sources t a).map (fun b => (b + b) / NumOps.ofInt 2) ∧
    handlerMid sources t a = handlerBid sources t a ∧
    (∀ v, handlerBid sources t a = some v ↔
      ∃ pre ds post bars, sources = pre ++ ds :: post ∧
        (∀ d ∈ pre, d.assets.lookup a = none ∨
            ∃ bs, d.assets.lookup a = some bs ∧ barLookup d.adjust bs t = none) ∧
        ds.assets.lookup a = some bars ∧ barLookup ds.adjust bars t = some v) ∧
    (handlerBid sources t a = none ↔
      ∀ d ∈ sources, d.getBid t a = .error .key ∨ d.getBid t a = .ok none) :=
  ⟨C06_handler_bidask sources t a, C06_handler_mid sources t a, C06_handler_mid_eq_bid sources t a,
   fun v => C06_handler_bid_some_bars sources t a v, C06_handler_bid_none sources t a⟩

end

/-! ## The memo table (`functools.lru_cache`) -/

section
variable {κ ν : Type} [BEq κ] [LawfulBEq κ]

/-- On a coherent table (every stored value is `f` of its key) the cached call returns `f k`, and
the new table is coherent. -/
theorem C06_memo (f : κ → ν) (tbl : List (κ × ν)) (k : κ) (hc : ∀ p ∈ tbl, p.2 = f p.1) :
    (cachedGet f tbl k).1 = f k ∧ ∀ p ∈ (cachedGet f tbl k).2, p.2 = f p.1 := by
  unfold cachedGet
  cases h : tbl.lookup k with
  | some v => exact ⟨hc _ (mem_of_lookup_eq_some h), hc⟩
  | none => exact ⟨rfl, List.forall_mem_cons.2 ⟨rfl, hc⟩⟩

/-- eviction, whatever the policy: any sub-table of a coherent table is coherent -/
theorem C06_memo_evict (f : κ → ν) (tbl tbl' : List (κ × ν)) (hsub : ∀ p ∈ tbl', p ∈ tbl)
    (hc : ∀ p ∈ tbl, p.2 = f p.1) : ∀ p ∈ tbl', p.2 = f p.1 :=
  fun p hp => hc p (hsub p hp)

theorem C06_memo_sublist (f : κ → ν) (tbl tbl' : List (κ × ν)) (hsub : tbl'.Sublist tbl)
    (hc : ∀ p ∈ tbl, p.2 = f p.1) : ∀ p ∈ tbl', p.2 = f p.1 :=
  C06_memo_evict f tbl tbl' (fun _ hp => hsub.subset hp) hc

theorem C06_memo_empty (f : κ → ν) : ∀ p ∈ ([] : List (κ × ν)), p.2 = f p.1 :=
  fun _ hp => absurd hp (by simp)

/-- a hit leaves the table alone, a miss prepends `(k, f k)`. -/
theorem C06_memo_table (f : κ → ν) (tbl : List (κ × ν)) (k : κ) :
    (cachedGet f tbl k).2 = tbl ∨ (cachedGet f tbl k).2 = (k, f k) :: tbl := by
  unfold cachedGet
  cases tbl.lookup k with
  | some v => exact Or.inl rfl
  | none => exact Or.inr rfl

end

/-! ## Non-vacuity: a concrete shuffled file with a missing cell, at the driver's `Rat` carrier -/

section Examples

/-- three bars in shuffled order (days 12, 10, 11); the open of day 11 is missing -/
def exFile : List (Bar Rat) :=
  [⟨12, some 300, some 310, some 155⟩, ⟨10, some 100, some 110, some 55⟩, ⟨11, none, some 210, some 105⟩]

def exSorted : List (Bar Rat) :=
  [⟨10, some 100, some 110, some 55⟩, ⟨11, none, some 210, some 105⟩, ⟨12, some 300, some 310, some 155⟩]

/-- the hypothesis of every theorem holds for the file -/
theorem exFile_distinct : exFile.Pairwise (fun a b => a.day ≠ b.day) := by
  decide

theorem exFile_sort : exFile.mergeSort barLe = exSorted := by
  simp [exFile, exSorted, List.mergeSort, List.MergeSort.Internal.splitInTwo, barLe]

/-- the unadjusted frame the model computes: day 11's missing open is filled with day 10's close -/
theorem exFrame_raw : bidAskFrame false exFile =
    [⟨10 * 86400 + 52200, some 100⟩, ⟨10 * 86400 + 75600, some 110⟩, ⟨11 * 86400 + 52200, some 110⟩,
     ⟨11 * 86400 + 75600, some 210⟩, ⟨12 * 86400 + 52200, some 300⟩, ⟨12 * 86400 + 75600, some 310⟩] := by
  unfold bidAskFrame; rw [exFile_sort]; rfl

/-! Queries (unadjusted), in this order: NaN before the first open; the open from 14:30; the close from 21:00; the missing
open of day 11 answered by day 10's close; the last bar only from its own open. -/

example : barLookup false exFile (10 * 86400 + 52199) = none := by
  unfold barLookup; rw [exFrame_raw]; decide
example : barLookup false exFile (10 * 86400 + 52200) = some 100 := by
  unfold barLookup; rw [exFrame_raw]; decide
example : barLookup false exFile (10 * 86400 + 75599) = some 100 := by
  unfold barLookup; rw [exFrame_raw]; decide
example : barLookup false exFile (10 * 86400 + 75600) = some 110 := by
  unfold barLookup; rw [exFrame_raw]; decide
example : barLookup false exFile (11 * 86400 + 60000) = some 110 := by
  unfold barLookup; rw [exFrame_raw]; decide
example : barLookup false exFile (11 * 86400 + 75600) = some 210 := by
  unfold barLookup; rw [exFrame_raw]; decide
example : barLookup false exFile (12 * 86400 + 52199) = some 210 := by
  unfold barLookup; rw [exFrame_raw]; decide
example : barLookup false exFile (99 * 86400) = some 310 := by
  unfold barLookup; rw [exFrame_raw]; decide

/-- the adjusted frame: opens scaled by adj/close (`55/110*100 = 50`, `155/310*300 = 150`), closes = adj -/
theorem exFrame_adj : bidAskFrame true exFile =
    [⟨10 * 86400 + 52200, some 50⟩, ⟨10 * 86400 + 75600, some 55⟩, ⟨11 * 86400 + 52200, some 55⟩,
     ⟨11 * 86400 + 75600, some 105⟩, ⟨12 * 86400 + 52200, some 150⟩, ⟨12 * 86400 + 75600, some 155⟩] := by
  unfold bidAskFrame; rw [exFile_sort]
  have h1 : (55 / 110 * 100 : Rat) = 50 := by norm_num
  have h2 : (155 / 310 * 300 : Rat) = 150 := by norm_num
  simp [exSorted, ffill, expandBar, List.flatMap, h1, h2, OPEN, CLOSE]

example : barLookup true exFile (12 * 86400 + 60000) = some 150 := by
  unfold barLookup; rw [exFrame_adj]; decide

theorem exFile_latest :
    IsLatest (exFile.flatMap (expandBar false)) (11 * 86400 + 60000) ⟨10 * 86400 + 75600, some 110⟩ := by
  refine ⟨by simp [exFile, expandBar, OPEN, CLOSE], by decide, rfl, ?_⟩
  intro r' hr' h1 h2
  simp only [exFile, expandBar, List.flatMap_cons, List.flatMap_nil, List.cons_append, List.nil_append,
    List.mem_cons, List.not_mem_nil, or_false, OPEN, CLOSE] at hr'
  rcases hr' with rfl | rfl | rfl | rfl | rfl | rfl <;> simp_all

/-- the hypothesis of `C06_char` at 16:40 of day 11 (open missing): the latest observed row is day 10's close -/
example : IsLatest (exFile.flatMap (expandBar false)) (11 * 86400 + 60000) ⟨10 * 86400 + 75600, some 110⟩ :=
  exFile_latest

/-- `C06_char` (not evaluation) gives the answer at 16:40 of day 11 -/
example : barLookup false exFile (11 * 86400 + 60000) = some 110 :=
  (C06_char false exFile _ exFile_distinct).1 _ exFile_latest

/-- `C06_none` applies before 14:30 of day 10 -/
example : barLookup true exFile (10 * 86400 + 52199) = none :=
  C06_none true exFile _ (by decide)

/-- `C06_char_dense_adj` applies to the last bar (day 12) although day 11 has a missing cell -/
example : barLookup true exFile (12 * 86400 + 60000) = some (155 / 310 * 300) := by
  have := C06_char_dense_adj exFile (12 * 86400 + 60000) exFile_distinct ⟨12, some 300, some 310, some 155⟩
    (by simp [exFile]) (by decide) (by decide) 300 310 155 rfl rfl rfl
  simpa [CLOSE] using this

/-- `C06_order`: the shuffled and the sorted file agree -/
example (t : Int) : barLookup false exFile t = barLookup false exSorted t :=
  C06_order false exFile exSorted t exFile_distinct
    ((List.Perm.swap _ _ _).trans ((List.Perm.swap _ _ _).cons _))

/-- `C06_causal`: changing the bar of day 12 (and adding day 13) does not change any answer before day 12's
open -/
example : barLookup true exFile (11 * 86400 + 80000) =
    barLookup true (⟨13, some 1, some 2, some 3⟩ :: ⟨12, some 999, none, some 7⟩ :: exSorted.take 2)
      (11 * 86400 + 80000) := by
  apply C06_causal true _ _ _ exFile_distinct (by decide)
  intro b
  simp only [exFile, exSorted, List.take, List.mem_cons, List.not_mem_nil, or_false, OPEN]
  constructor
  · rintro ⟨rfl | rfl | rfl, h⟩ <;> simp_all
  · rintro ⟨rfl | rfl | rfl | rfl, h⟩ <;> simp_all

/-- the handler: the first source does not list `"B"`, the second has no observation yet at `t`, the third
answers -/
def exSources : List (DataSource Rat) :=
  [⟨false, [("A", exFile)]⟩, ⟨false, [("B", [⟨20, some 7, some 8, some 9⟩])]⟩, ⟨false, [("B", exFile)]⟩]

example : handlerBid exSources (10 * 86400 + 60000) "B" = some 100 := by
  have h3 : barLookup false exFile (10 * 86400 + 60000) = some 100 := by
    unfold barLookup; rw [exFrame_raw]; decide
  unfold exSources
  rw [(C06_handler_skip_unknown _ _ _ "B" (by decide)).2,
    C06_handler_skip_nan _ _ _ "B" [⟨20, some 7, some 8, some 9⟩] rfl
      (C06_none _ _ _ (by decide))]
  exact C06_handler_first _ _ _ "B" exFile 100 rfl h3

/-- `C06_char_dense` applies to a dense shuffled two-bar file (gap on day 11), query on day 11: day 10's close -/
example : ∃ o c : Rat, barLookup false [⟨12, some 300, some 310, some 155⟩, ⟨10, some 100, some 110, some 55⟩]
    (11 * 86400 + 60000) = some (if 11 * 86400 + 60000 < (10 : Int) * 86400 + CLOSE then o else c) ∧ c = 110 := by
  obtain ⟨o, c, _, h2, _, h4⟩ := C06_char_dense false
    [⟨12, some 300, some 310, some 155⟩, ⟨10, some 100, some 110, some 55⟩] (11 * 86400 + 60000)
    (by decide) (by decide) (⟨10, some 100, some 110, some (55 : Rat)⟩) (by simp) (by decide)
    (by decide)
  refine ⟨o, c, h4, ?_⟩
  have := (h2 rfl).2
  simpa using this.symm

/-! The memo table: a hit and a miss on a coherent table; an incoherent table is excluded by the hypothesis. -/

example : cachedGet (fun n : Nat => n * n) [(3, 9)] 3 = (9, [(3, 9)]) := by decide
example : cachedGet (fun n : Nat => n * n) [(3, 9)] 4 = (16, [(4, 16), (3, 9)]) := by decide
example : ∀ p ∈ [((3 : Nat), (9 : Nat))], p.2 = (fun n : Nat => n * n) p.1 := by decide
example : (cachedGet (fun n : Nat => n * n) [(3, 10)] 3).1 ≠ 3 * 3 := by decide

end Examples

/-! mid = bid at the lawful field instance on `ℚ` -/
section ExamplesField
noncomputable local instance (priority := high) c06RatOps : NumOps ℚ := fieldNumOps ℚ
local instance (priority := high) c06RatLawful : LawfulNumOps ℚ := fieldNumOps_lawful ℚ

example (t : Int) (a : String) : handlerMid exSources t a = handlerBid exSources t a :=
  C06_handler_mid_eq_bid exSources t a

end ExamplesField

end Qs
