import QsProofs.Lemmas.Position
import Mathlib.Data.Rat.Floor
import Mathlib.Tactic.NormNum

/-!
# C03 — Position P&L reconciles exactly to the cash flows of its fills

For any buys and sells, at any prices and commissions, made since a position was opened, and any
current price, the reported total P&L equals realised plus unrealised P&L and equals current market
value minus the sum of price × signed quantity of those fills minus their commissions; unrealised
P&L equals (current price − average cost including the open side's commission) × net quantity.
Re-marking the price changes unrealised P&L only, never realised P&L or quantities.

The position is `Position.reached f fs ms`, the domain `ValidRun f fs ms` (`QsProofs/Lemmas/Position.lean`).

* **Flat states are included.**  `C03_reconcile` holds for fill lists of every length and every sign
  pattern of the running net quantity: long, short, flat (`net = 0`), flips through zero, and runs
  that pass through a flat state and *continue* (the `Position` object keeps its cumulative
  accumulators; the code's `realised` has a branch for `net = 0`).  (In the real system the handler
  deletes a flat position; the theorem is about the `Position` object itself.)
* Outside the domain (`C03_reconcile_strong`, only `qty ≠ 0` assumed; times and prices arbitrary, so
  `transact` / `updatePrice` calls may return errors): `transact` validates the trade's price and time
  *before* it touches the accumulators (DESIGN §12.5, F4), so a refused fill leaves the running quantities,
  averages and commissions unchanged and changes at most the `clock`.  The identity then holds with the
  cash-flow sums taken over the opening fill and the **accepted** later fills
  (`Position.accepted (openFrom f) fs`: the fills whose `transact` call returned no error) — a refused
  fill is not a cash flow of the position.  Inside the domain every fill is accepted
  (`C03_accepted_all`), which gives `C03_reconcile` over all fills.  `qty ≠ 0` is genuinely needed:
  `transact` ignores a zero-quantity fill entirely (and reports no error), so its commission would
  appear in the cash flows but not in the position.
-/

set_option linter.unusedSectionVars false

namespace Qs
open Position

/-! ## Re-marking, and the two definitional identities (every carrier, no laws needed, error outcomes included) -/

section Remark
variable {α : Type} [Add α] [Sub α] [Mul α] [Div α] [Neg α] [NumOps α]

/-- C03 (re-mark): `updatePrice` — in each of its three outcomes (time error, price error, success) —
leaves realised P&L, net quantity, both cumulative quantities and the average cost unchanged. -/
theorem C03_remark (P : Position α) (p : α) (t : Int) :
    (P.updatePrice p t).1.realised = P.realised ∧
    (P.updatePrice p t).1.net = P.net ∧
    (P.updatePrice p t).1.buyQ = P.buyQ ∧
    (P.updatePrice p t).1.sellQ = P.sellQ ∧
    (P.updatePrice p t).1.avgPrice = P.avgPrice := by
  obtain ⟨pr, c, e⟩ := Position.updatePrice_fst P p t
  rw [e]
  exact ⟨rfl, rfl, rfl, rfl, rfl⟩

/-- C03 (total): total P&L is realised plus unrealised. -/
theorem C03_total (P : Position α) : P.totalPnl = P.realised + P.unrealised := rfl

/-- C03 (unrealised): unrealised P&L is (current price − average cost) × net quantity.
True for every `Position`, also when `net = 0` (then `avgPrice = 0` and the product is `0`), so the
hypothesis `P.net ≠ 0` of the English statement is not needed. -/
theorem C03_unrealised (P : Position α) : P.unrealised = (P.price - P.avgPrice) * P.net := rfl

end Remark

section Carrier
variable {α : Type} [Field α] [LinearOrder α] [IsStrictOrderedRing α] [FloorRing α] [NumOps α] [LawfulNumOps α]

/-- C03 (re-mark, success case): a re-mark inside the domain sets the price, so unrealised P&L becomes
`(p − avgPrice) × net` with the old average cost and net quantity. -/
theorem C03_remark_unrealised (P : Position α) (p : α) (t : Int) (hc : P.clock ≤ t) (hp : 0 < p) :
    (P.updatePrice p t).2 = none ∧
    (P.updatePrice p t).1.unrealised = (p - P.avgPrice) * P.net := by
  rw [updatePrice_dom P hp hc]
  exact ⟨rfl, rfl⟩

/-- Inside the domain no call of the run returns an error: every `transact` (first component) and
every `updatePrice` (second component), each applied to the position reached by the calls before it. -/
theorem C03_no_error (f : Txn α) (fs : List (Txn α)) (ms : List (α × Int)) (h : ValidRun f fs ms) :
    (∀ pre t post, fs = pre ++ t :: post →
        (((openFrom f).applyFills pre).transact t).2 = none) ∧
    (∀ pre m post, ms = pre ++ m :: post →
        ((((openFrom f).applyFills fs).applyMarks pre).updatePrice m.1 m.2).2 = none) := by
  have hpw := h.times
  rw [List.pairwise_append] at hpw
  obtain ⟨hF, hM, hFM⟩ := hpw
  simp only [List.map_cons, List.pairwise_cons] at hF
  have hclk := openFrom_clock f
  obtain ⟨hno, hle⟩ := applyFills_timed (openFrom f) fs
    (fun t ht => h.qty_ne t (List.mem_cons_of_mem _ ht))
    (fun t ht => h.price_pos t (List.mem_cons_of_mem _ ht))
    (fun t ht => hclk ▸ hF.1 _ (List.mem_map_of_mem ht)) hF.2
  refine ⟨hno, applyMarks_noerr _ _ h.mark_pos (fun m hm => ?_) hM⟩
  have hm' : m.2 ∈ ms.map (fun m => m.2) := List.mem_map_of_mem hm
  exact hle _ (hclk ▸ hFM _ (by simp) _ hm')
    fun t ht => hFM _ (List.mem_map_of_mem (List.mem_cons_of_mem _ ht)) _ hm'

/-- Inside the domain every later fill is accepted: the list of accepted fills is the whole list. -/
theorem C03_accepted_all (f : Txn α) (fs : List (Txn α)) (ms : List (α × Int)) (h : ValidRun f fs ms) :
    accepted (openFrom f) fs = fs :=
  accepted_eq_self (openFrom f) fs (C03_no_error f fs ms h).1

/-- The invariant outside the domain (only `qty ≠ 0`; calls may be refused): the accumulators are the
sums over the opening fill and the accepted later fills — a refused fill is not counted. -/
theorem C03_invariant_strong (f : Txn α) (fs : List (Txn α)) (ms : List (α × Int))
    (hq : ∀ t ∈ f :: fs, t.qty ≠ 0) :
    Inv (reached f fs ms) (f :: accepted (openFrom f) fs) := by
  unfold reached
  apply inv_applyMarks
  simpa using inv_applyFills (inv_openFrom f (hq f (List.mem_cons_self ..))) fs
    fun u hu => hq u (List.mem_cons_of_mem _ hu)

/-- The reachability invariant (`Inv`, see `QsProofs/Lemmas/Position.lean`) of every reached position:
`avgB·buyQ`, `comB`, `buyQ` (resp. sell side) are the sums over the buy (sell) fills, both
quantities are non-negative, and an empty side carries no commission. -/
theorem C03_invariant (f : Txn α) (fs : List (Txn α)) (ms : List (α × Int)) (h : ValidRun f fs ms) :
    Inv (reached f fs ms) (f :: fs) := by
  have := C03_invariant_strong f fs ms h.qty_ne
  rwa [C03_accepted_all f fs ms h] at this

/-- C03 (a refused fill is not a cash flow): a `transact` call that returns an error leaves both
cumulative quantities, both averages and both commission totals — hence net quantity, realised P&L and
average cost — exactly as they were; at most the `clock` moved. -/
theorem C03_refused (P : Position α) (t : Txn α) (e : Err) (h : (P.transact t).2 = some e) :
    ∃ c, (P.transact t).1 = { P with clock := c } :=
  Position.transact_refused P t e h

/-- `C03_reconcile` under `qty ≠ 0` only; times and prices are arbitrary, so `transact` and
`updatePrice` calls of the run may be refused.  The cash-flow sums run over the opening fill and the
**accepted** later fills `accepted (openFrom f) fs` (a refused `transact` does not touch the
accumulators, so its fill must not be counted). -/
theorem C03_reconcile_strong (f : Txn α) (fs : List (Txn α)) (ms : List (α × Int))
    (hq : ∀ t ∈ f :: fs, t.qty ≠ 0) :
    (reached f fs ms).totalPnl =
      (reached f fs ms).price * (reached f fs ms).net
        - ((f :: accepted (openFrom f) fs).map (fun t => t.price * (t.qty : α))).sum
        - ((f :: accepted (openFrom f) fs).map (fun t => t.commission)).sum := by
  refine (C03_invariant_strong f fs ms hq).reconcile fun t ht => ?_
  rcases List.mem_cons.mp ht with rfl | ht
  · exact hq _ (List.mem_cons_self ..)
  · exact hq t (List.mem_cons_of_mem _ ((accepted_sublist _ _).subset ht))

/-- C03 (reconcile): total P&L = market value − Σ price × signed quantity − Σ commission, for every
fill list of the domain, of any length, through long, short and flat states. -/
theorem C03_reconcile (f : Txn α) (fs : List (Txn α)) (ms : List (α × Int)) (h : ValidRun f fs ms) :
    (reached f fs ms).totalPnl =
      (reached f fs ms).price * (reached f fs ms).net
        - ((f :: fs).map (fun t => t.price * (t.qty : α))).sum
        - ((f :: fs).map (fun t => t.commission)).sum := by
  have := C03_reconcile_strong f fs ms h.qty_ne
  rwa [C03_accepted_all f fs ms h] at this

/-- the net quantity of a reached position is the sum of the signed fill quantities -/
theorem C03_net (f : Txn α) (fs : List (Txn α)) (ms : List (α × Int)) (h : ValidRun f fs ms) :
    (reached f fs ms).net = ((f :: fs).map (fun t => (t.qty : α))).sum :=
  (C03_invariant f fs ms h).net h.qty_ne

/-- C03 (average cost, long): for `net > 0` the average cost is
`(Σ buys price·qty + Σ buys commission) / Σ buys qty`  (`buys l = l.filter (0 < ·.qty)`). -/
theorem C03_avgPrice_long (f : Txn α) (fs : List (Txn α)) (ms : List (α × Int)) (h : ValidRun f fs ms)
    (hlong : 0 < (reached f fs ms).net) :
    (reached f fs ms).avgPrice =
      (((buys (f :: fs)).map (fun t => t.price * (t.qty : α))).sum
          + ((buys (f :: fs)).map (fun t => t.commission)).sum)
        / ((buys (f :: fs)).map (fun t => (t.qty : α))).sum :=
  (C03_invariant f fs ms h).avgPrice_long hlong

/-- C03 (average cost, short): for `net < 0` the average cost is
`(Σ sells price·|qty| − Σ sells commission) / Σ sells |qty|`  (`sells l = l.filter (·.qty < 0)`). -/
theorem C03_avgPrice_short (f : Txn α) (fs : List (Txn α)) (ms : List (α × Int)) (h : ValidRun f fs ms)
    (hshort : (reached f fs ms).net < 0) :
    (reached f fs ms).avgPrice =
      (((sells (f :: fs)).map (fun t => t.price * |(t.qty : α)|)).sum
          - ((sells (f :: fs)).map (fun t => t.commission)).sum)
        / ((sells (f :: fs)).map (fun t => |(t.qty : α)|)).sum :=
  (C03_invariant f fs ms h).avgPrice_short hshort

/-- C03 (average cost, flat): for `net = 0` the code reports average cost `0` (and unrealised P&L `0`). -/
theorem C03_avgPrice_flat (P : Position α) (hflat : P.net = 0) :
    P.avgPrice = 0 ∧ P.unrealised = 0 :=
  ⟨avgPrice_flat P hflat, by rw [C03_unrealised, hflat, mul_zero]⟩

end Carrier

/-! ## Non-vacuity at `α := ℚ`

buy 100 @ 10 (commission 1), sell 150 @ 11 (commission 2) — a flip through zero —, buy 20 @ 9
(commission 1/2), then a re-mark to 12.  A second run passes through a flat state and continues. -/

section Examples

noncomputable local instance instNumOpsQ : NumOps ℚ := fieldNumOps ℚ
local instance instLawfulQ : LawfulNumOps ℚ := fieldNumOps_lawful ℚ

def exF0 : Txn ℚ := { asset := "A", qty := 100, time := 1, price := 10, commission := 1 }
def exF1 : Txn ℚ := { asset := "A", qty := -150, time := 2, price := 11, commission := 2 }
def exF2 : Txn ℚ := { asset := "A", qty := 20, time := 3, price := 9, commission := 1 / 2 }
/-- closes `exF0` exactly: the position is flat after it -/
def exF1' : Txn ℚ := { asset := "A", qty := -100, time := 2, price := 11, commission := 2 }

/-- the flip-through-zero run is inside the domain -/
theorem exValid : ValidRun exF0 [exF1, exF2] [((12 : ℚ), (5 : Int))] :=
  ⟨by decide, by decide, by decide, by decide⟩

/-- the run through a flat intermediate state is inside the domain -/
theorem exValid' : ValidRun exF0 [exF1', exF2] [] :=
  ⟨by decide, by decide, by decide, by decide⟩

/-! Both sides of `C03_reconcile` evaluated on the flip-through-zero run, after the re-mark to 12:
net = −30, market value = −360, Σ price·qty = −470, Σ commission = 7/2, total P&L = 213/2. -/

example : (reached exF0 [exF1, exF2] [((12 : ℚ), (5 : Int))]).totalPnl = 213 / 2 := by
  decide +kernel

example : (reached exF0 [exF1, exF2] [((12 : ℚ), (5 : Int))]).price
      * (reached exF0 [exF1, exF2] [((12 : ℚ), (5 : Int))]).net
      - (([exF0, exF1, exF2]).map (fun t => t.price * (t.qty : ℚ))).sum
      - (([exF0, exF1, exF2]).map (fun t => t.commission)).sum = 213 / 2 := by
  decide +kernel

/-- the state is short (net = −30), realised and unrealised are both non-trivial, and the average
cost is `(Σ sells price·|qty| − Σ sells commission) / Σ sells |qty| = (1650 − 2) / 150` -/
example : (reached exF0 [exF1, exF2] [((12 : ℚ), (5 : Int))]).net = -30
    ∧ (reached exF0 [exF1, exF2] [((12 : ℚ), (5 : Int))]).realised = 1369 / 10
    ∧ (reached exF0 [exF1, exF2] [((12 : ℚ), (5 : Int))]).unrealised = -152 / 5
    ∧ (reached exF0 [exF1, exF2] [((12 : ℚ), (5 : Int))]).avgPrice = 1648 / 150 := by
  decide +kernel

/-- the intermediate state after the first sell really is on the other side of zero (net = −50) -/
example : (reached exF0 [exF1] []).net = -50 := by
  decide +kernel

/-- run through a flat intermediate state: flat after `exF1'`, then long 20 -/
example : (reached exF0 [exF1'] []).net = 0 ∧ (reached exF0 [exF1'] []).totalPnl = 97
    ∧ (reached exF0 [exF1', exF2] []).net = 20
    ∧ (reached exF0 [exF1', exF2] []).totalPnl = 193 / 2 := by
  decide +kernel

/-- the theorems instantiate at `ℚ` -/
example : (reached exF0 [exF1', exF2] []).totalPnl =
    (reached exF0 [exF1', exF2] []).price * (reached exF0 [exF1', exF2] []).net
      - (([exF0, exF1', exF2]).map (fun t => t.price * (t.qty : ℚ))).sum
      - (([exF0, exF1', exF2]).map (fun t => t.commission)).sum :=
  C03_reconcile exF0 [exF1', exF2] [] exValid'

example := C03_reconcile _ _ _ exValid
example := C03_no_error _ _ _ exValid
example := C03_invariant _ _ _ exValid
example := C03_net _ _ _ exValid
example := C03_avgPrice_short _ _ _ exValid (by decide +kernel)
example := C03_avgPrice_long _ _ _ exValid' (by decide +kernel)

/-! A run *outside* the domain: `exBad` (time 0 < clock 1) and `exBad'` (price 0) are refused by
`transact`; they leave the accumulators untouched and are not among the accepted fills, so
`C03_reconcile_strong` counts only `exF0` and `exF1`.  Counting the refused fills (as the sums over
all of `fs` would) gives a different, wrong figure. -/

def exBad : Txn ℚ := { asset := "A", qty := 500, time := 0, price := 7, commission := 3 }
def exBad' : Txn ℚ := { asset := "A", qty := -40, time := 2, price := 0, commission := 5 }

example : ((openFrom exF0).transact exBad).2 = some Err.value
    ∧ ((openFrom exF0).transact exBad).1 = openFrom exF0 := by
  norm_num [transact, updatePrice, openFrom, exF0, exBad]

example : accepted (openFrom exF0) [exBad, exF1, exBad'] = [exF1] := by
  rw [accepted, if_neg (by decide +kernel), accepted, if_pos (by decide +kernel), accepted,
    if_neg (by decide +kernel), accepted]

example : (reached exF0 [exBad, exF1, exBad'] []).totalPnl = 97
    ∧ (reached exF0 [exBad, exF1, exBad'] []).price * (reached exF0 [exBad, exF1, exBad'] []).net
        - (([exF0, exF1]).map (fun t => t.price * (t.qty : ℚ))).sum
        - (([exF0, exF1]).map (fun t => t.commission)).sum = 97
    ∧ (reached exF0 [exBad, exF1, exBad'] []).price * (reached exF0 [exBad, exF1, exBad'] []).net
        - (([exF0, exBad, exF1, exBad']).map (fun t => t.price * (t.qty : ℚ))).sum
        - (([exF0, exBad, exF1, exBad']).map (fun t => t.commission)).sum ≠ 97 := by
  decide +kernel

example := C03_reconcile_strong exF0 [exBad, exF1, exBad'] [] (by decide)
example := C03_invariant_strong exF0 [exBad, exF1, exBad'] [] (by decide)
example := C03_refused (openFrom exF0) exBad Err.value (by decide +kernel)
example := C03_accepted_all _ _ _ exValid

end Examples

end Qs
