import QsProofs.Lemmas.Pcm
import Mathlib.Data.Rat.Floor

/-!
# C19 — Assets trade only while they belong to the universe (unit level)

With a universe-driven alpha model, an asset receives a target weight, an order or a position only at
rebalances at or after its universe entry time (entry ≤ t, inclusive), and it is included from the first such
rebalance onward; an asset with no entry date is never included, and a static universe always yields exactly
its configured list.  The fixed-weight optimiser returns its input weights unchanged and the equal-weight
optimiser returns equal weights summing to the configured scale, each for exactly the assets it is given.

All theorems are about `Qs.dynamicAssets / staticAssets / singleSignal / fixedWeight / equalWeight`
(`QsModel/Sizer.lean`) and `Qs.fullWeightVector / pcmCall` (`QsModel/Pcm.lean`).

* The statements spell "`a` has an entry date `e` with `e ≤ t`" out as `∃ e, (a, some e) ∈ dates ∧ e ≤ t`; the proofs
  and the session level call it `Entered dates t a` (`Lemmas/Pcm.lean`, `mem_dynamicAssets`).
* The composition theorems use one fact about the order sizer, `SizerKeys` (it returns exactly the keys it is
  given); `dwSize_keys` / `lsSize_keys` prove it for the two sizers and the `…_dw` / `…_ls` corollaries instantiate.
* The session-level statement (over a whole backtest) is the induction whose step is `C19_pcm_invariant`: the
  positions after the fills are the held assets plus the ordered assets.
-/

set_option linter.unusedSectionVars false

namespace Qs
open NumOps Num

/-! ## Universes -/

/-- C19 (dynamic universe): membership is exactly "entry date present and `entry ≤ t`" (inclusive); the result
keeps the dictionary order (it is the key list of a filter of `dates`, a sublist of all keys); it only grows
with `t`, keeping the order ("included from the first such rebalance onward"). -/
theorem C19_dynamic (dates : List (String × Option Int)) (t : Int) :
    (∀ a, a ∈ dynamicAssets dates t ↔ ∃ e, (a, some e) ∈ dates ∧ e ≤ t) ∧
    dynamicAssets dates t =
      (dates.filter fun x => match x.2 with
        | some e => decide (e ≤ t)
        | none => false).map (·.1) ∧
    (dynamicAssets dates t).Sublist (dates.map (·.1)) ∧
    (∀ t', t ≤ t' → (dynamicAssets dates t).Sublist (dynamicAssets dates t')) ∧
    (∀ t', t ≤ t' → ∀ a, a ∈ dynamicAssets dates t → a ∈ dynamicAssets dates t') := by
  refine ⟨fun a => mem_dynamicAssets, dynamicAssets_eq_filter dates t, ?_,
    fun t' h => dynamicAssets_sublist_mono dates h,
    fun t' h a ha => (dynamicAssets_sublist_mono dates h).subset ha⟩
  rw [dynamicAssets_eq_filter]
  exact List.filter_sublist.map _

/-- C19 (no entry date): an asset whose entries (if any) carry no date is in the universe at no time. -/
theorem C19_never (dates : List (String × Option Int)) (a : String) (h : ∀ e, (a, some e) ∉ dates) (t : Int) :
    a ∉ dynamicAssets dates t := by
  rw [mem_dynamicAssets]
  rintro ⟨e, he, _⟩
  exact h e he

/-- C19 (inclusion is from the entry time on, inclusive): an asset with entry date `e` is in the universe at every
`t ≥ e`, in particular at `t = e`. -/
theorem C19_from_entry (dates : List (String × Option Int)) (a : String) (e : Int) (h : (a, some e) ∈ dates)
    (t : Int) (ht : e ≤ t) : a ∈ dynamicAssets dates t :=
  mem_dynamicAssets.mpr ⟨e, h, ht⟩

theorem C19_static (l : List String) (t : Int) : staticAssets l t = l := rfl

/-! ## Alpha model and optimisers -/

/-- C19 (single-signal alpha model): one weight per universe asset, in universe order, every weight the signal. -/
theorem C19_alpha {α : Type} (U : List String) (s : α) :
    (singleSignal U s).map (·.1) = U ∧ (∀ x ∈ singleSignal U s, x.2 = s) ∧
    (∀ a, a ∈ U → (a, s) ∈ singleSignal U s) := by
  unfold singleSignal
  refine ⟨by simp [List.map_map, Function.comp_def], ?_, ?_⟩
  · intro x hx
    obtain ⟨a, _, rfl⟩ := List.mem_map.mp hx
    rfl
  · intro a ha
    exact List.mem_map.mpr ⟨a, ha, rfl⟩

section Opt
variable {α : Type} [Field α] [LinearOrder α] [IsStrictOrderedRing α] [FloorRing α] [NumOps α] [LawfulNumOps α]

theorem C19_fixed (w : Weights α) : fixedWeight w = w := rfl

/-- C19 (equal-weight optimiser): same keys in the same order, every weight `scale * (1 / n)`, and — for a
non-empty input — the weights sum to `scale`. -/
theorem C19_equal (scale : α) (w : Weights α) :
    (equalWeight scale w).map (·.1) = w.map (·.1) ∧
    (∀ x ∈ equalWeight scale w, x.2 = scale * (1 / (w.length : α))) ∧
    (w ≠ [] → ((equalWeight scale w).map (·.2)).sum = scale) := by
  unfold equalWeight
  refine ⟨by simp [List.map_map, Function.comp_def], ?_, ?_⟩
  · intro x hx
    obtain ⟨y, _, rfl⟩ := List.mem_map.mp hx
    simp
  · intro hw
    have hn : (w.length : α) ≠ 0 := by
      have : w.length ≠ 0 := fun h => hw (List.length_eq_zero_iff.mp h)
      exact_mod_cast this
    have : (w.map fun x => (x.1, scale * (one / ofInt (w.length : Int)))).map (·.2)
        = List.replicate w.length (scale * (1 / (w.length : α))) := by
      rw [List.map_map]
      simp only [Function.comp_def, ofInt_eq, Int.cast_natCast, Int.cast_one]
      exact List.map_const' ..
    rw [this, List.sum_replicate, nsmul_eq_mul, mul_left_comm, mul_one_div, div_self hn, mul_one]

end Opt

/-! ## Composition at one rebalance -/

section Pcm
variable {α : Type} [NumOps α]

/-- C19 (inductive step for sessions), any sizer that returns exactly the keys it is given: if every held asset
entered the universe by `t₀ ≤ t`, then at the rebalance at `t` with the universe-driven alpha model every key of
the full weight vector / recorded allocation, every target asset and every order asset has entered by `t`; so the
positions after the fills (held assets ∪ ordered assets) again satisfy the invariant, at `t`. -/
theorem C19_pcm_invariant (dates : List (String × Option Int)) (t₀ t : Int) (htt : t₀ ≤ t)
    (held : List (String × Int)) (hheld : ∀ a ∈ held.map (·.1), ∃ e, (a, some e) ∈ dates ∧ e ≤ t₀)
    (s : α) (sizer : List (String × α) → Except Err (List (String × Int))) (hk : SizerKeys sizer)
    (r : PcmResult α)
    (hr : pcmCall held (dynamicAssets dates t) (singleSignal (dynamicAssets dates t) s) sizer = .ok r) :
    (∀ a ∈ (fullWeightVector held (dynamicAssets dates t)
        (singleSignal (dynamicAssets dates t) s)).map (·.1), ∃ e, (a, some e) ∈ dates ∧ e ≤ t) ∧
    (∀ x ∈ r.fullWeights, ∃ e, (x.1, some e) ∈ dates ∧ e ≤ t) ∧
    (∃ target, sizer (fullWeightVector held (dynamicAssets dates t)
        (singleSignal (dynamicAssets dates t) s)) = .ok target ∧
      ∀ y ∈ target, ∃ e, (y.1, some e) ∈ dates ∧ e ≤ t) ∧
    (∀ o ∈ r.orders, ∃ e, (o.1, some e) ∈ dates ∧ e ≤ t) ∧
    (∀ a, a ∈ held.map (·.1) ∨ a ∈ r.orders.map (·.1) → ∃ e, (a, some e) ∈ dates ∧ e ≤ t) := by
  obtain ⟨target, hs, rfl, hT, hO⟩ := pcmCall_keys hk hr
  -- every asset the rebalance can touch (held, in the universe, weighted by alpha) has entered by `t`
  have hP : ∀ a, a ∈ held.map (·.1) ∨ a ∈ dynamicAssets dates t ∨
      a ∈ (singleSignal (dynamicAssets dates t) s).map (·.1) → Entered dates t a := by
    rw [(C19_alpha _ s).1]
    rintro a (h | h | h)
    exacts [Entered.mono htt (hheld a h), mem_dynamicAssets.mp h, mem_dynamicAssets.mp h]
  have hK := fun a ha => hP a (mem_fullWeightVector_keys.mp ha)
  have hT' : ∀ y ∈ target, Entered dates t y.1 := fun y hy => hP _ ((hT _).mp (List.mem_map_of_mem hy))
  have hO' := fun o ho => hP _ ((hT _).mp (hO o ho))
  refine ⟨hK, fun x hx => hK x.1 (List.mem_map_of_mem hx), ⟨target, hs, hT'⟩, hO', ?_⟩
  rintro a (ha | ha)
  · exact Entered.mono htt (hheld a ha)
  · obtain ⟨o, ho, rfl⟩ := List.mem_map.mp ha
    exact hO' o ho

/-- C19 (only after entry), empty holdings: every key of the full weight vector — hence every recorded allocation
key, every target asset and every order asset — has an entry date `e ≤ t`. -/
theorem C19_pcm_only (dates : List (String × Option Int)) (t : Int)
    (s : α) (sizer : List (String × α) → Except Err (List (String × Int))) (hk : SizerKeys sizer)
    (r : PcmResult α)
    (hr : pcmCall [] (dynamicAssets dates t) (singleSignal (dynamicAssets dates t) s) sizer = .ok r) :
    (∀ a ∈ (fullWeightVector [] (dynamicAssets dates t)
        (singleSignal (dynamicAssets dates t) s)).map (·.1), ∃ e, (a, some e) ∈ dates ∧ e ≤ t) ∧
    (∀ x ∈ r.fullWeights, ∃ e, (x.1, some e) ∈ dates ∧ e ≤ t) ∧
    (∃ target, sizer (fullWeightVector [] (dynamicAssets dates t)
        (singleSignal (dynamicAssets dates t) s)) = .ok target ∧
      ∀ y ∈ target, ∃ e, (y.1, some e) ∈ dates ∧ e ≤ t) ∧
    (∀ o ∈ r.orders, ∃ e, (o.1, some e) ∈ dates ∧ e ≤ t) := by
  obtain ⟨h1, h2, h3, h4, _⟩ :=
    C19_pcm_invariant dates t t (le_refl t) [] (by simp) s sizer hk r hr
  exact ⟨h1, h2, h3, h4⟩

/-- C19 (included from entry onward): at a rebalance at `t`, every asset with an entry date `e ≤ t` is a key of the
recorded allocation, with the signal as its weight, and (sizer with `SizerKeys`) is given a target quantity —
whatever is held. -/
theorem C19_from (dates : List (String × Option Int)) (t : Int) (held : List (String × Int))
    (s : α) (sizer : List (String × α) → Except Err (List (String × Int))) (hk : SizerKeys sizer)
    (r : PcmResult α)
    (hr : pcmCall held (dynamicAssets dates t) (singleSignal (dynamicAssets dates t) s) sizer = .ok r)
    (a : String) (e : Int) (hae : (a, some e) ∈ dates) (het : e ≤ t) :
    a ∈ r.fullWeights.map (·.1) ∧ (a, s) ∈ r.fullWeights ∧
    ∃ target, sizer (fullWeightVector held (dynamicAssets dates t)
        (singleSignal (dynamicAssets dates t) s)) = .ok target ∧ a ∈ target.map (·.1) := by
  obtain ⟨target, hs, rfl, hT, -⟩ := pcmCall_keys hk hr
  have hU : a ∈ dynamicAssets dates t := mem_dynamicAssets.mpr ⟨e, hae, het⟩
  have hmem : (a, s) ∈ fullWeightVector held (dynamicAssets dates t)
      (singleSignal (dynamicAssets dates t) s) := by
    refine mem_fullWeightVector.mpr (Or.inl ⟨mem_fullAssetList.mpr (Or.inr hU), ?_⟩)
    obtain ⟨v, hv⟩ := lookup_isSome_of_mem_keys (d := singleSignal (dynamicAssets dates t) s)
      (by rw [(C19_alpha _ s).1]; exact hU)
    rw [hv]
    exact ((C19_alpha _ s).2.1 _ (mem_of_lookup_eq_some hv)).symm
  exact ⟨List.mem_map_of_mem hmem, hmem, target, hs, (hT a).mpr (Or.inr (Or.inl hU))⟩

end Pcm

/-! ## Instantiation at the two order sizers -/

section Lawful
variable {α : Type} [Field α] [LinearOrder α] [IsStrictOrderedRing α] [FloorRing α] [NumOps α] [LawfulNumOps α]
variable (fee : FeeModel α) (E buffer leverage : α) (price : String → Option α)

theorem C19_pcm_invariant_dw (dates : List (String × Option Int)) (t₀ t : Int) (htt : t₀ ≤ t)
    (held : List (String × Int)) (hheld : ∀ a ∈ held.map (·.1), ∃ e, (a, some e) ∈ dates ∧ e ≤ t₀)
    (s : α) (r : PcmResult α)
    (hr : pcmCall held (dynamicAssets dates t) (singleSignal (dynamicAssets dates t) s)
      (dwSize fee E buffer price) = .ok r) :
    (∀ x ∈ r.fullWeights, ∃ e, (x.1, some e) ∈ dates ∧ e ≤ t) ∧
    (∀ o ∈ r.orders, ∃ e, (o.1, some e) ∈ dates ∧ e ≤ t) ∧
    (∀ a, a ∈ held.map (·.1) ∨ a ∈ r.orders.map (·.1) → ∃ e, (a, some e) ∈ dates ∧ e ≤ t) := by
  obtain ⟨_, h2, _, h4, h5⟩ :=
    C19_pcm_invariant dates t₀ t htt held hheld s _ (dwSize_keys fee E buffer price) r hr
  exact ⟨h2, h4, h5⟩

theorem C19_pcm_invariant_ls (dates : List (String × Option Int)) (t₀ t : Int) (htt : t₀ ≤ t)
    (held : List (String × Int)) (hheld : ∀ a ∈ held.map (·.1), ∃ e, (a, some e) ∈ dates ∧ e ≤ t₀)
    (s : α) (r : PcmResult α)
    (hr : pcmCall held (dynamicAssets dates t) (singleSignal (dynamicAssets dates t) s)
      (lsSize fee E leverage price) = .ok r) :
    (∀ x ∈ r.fullWeights, ∃ e, (x.1, some e) ∈ dates ∧ e ≤ t) ∧
    (∀ o ∈ r.orders, ∃ e, (o.1, some e) ∈ dates ∧ e ≤ t) ∧
    (∀ a, a ∈ held.map (·.1) ∨ a ∈ r.orders.map (·.1) → ∃ e, (a, some e) ∈ dates ∧ e ≤ t) := by
  obtain ⟨_, h2, _, h4, h5⟩ :=
    C19_pcm_invariant dates t₀ t htt held hheld s _ (lsSize_keys fee E leverage price) r hr
  exact ⟨h2, h4, h5⟩

theorem C19_from_dw (dates : List (String × Option Int)) (t : Int) (held : List (String × Int))
    (s : α) (r : PcmResult α)
    (hr : pcmCall held (dynamicAssets dates t) (singleSignal (dynamicAssets dates t) s)
      (dwSize fee E buffer price) = .ok r)
    (a : String) (e : Int) (hae : (a, some e) ∈ dates) (het : e ≤ t) :
    a ∈ r.fullWeights.map (·.1) ∧ (a, s) ∈ r.fullWeights :=
  let ⟨h1, h2, _⟩ := C19_from dates t held s _ (dwSize_keys fee E buffer price) r hr a e hae het
  ⟨h1, h2⟩

theorem C19_from_ls (dates : List (String × Option Int)) (t : Int) (held : List (String × Int))
    (s : α) (r : PcmResult α)
    (hr : pcmCall held (dynamicAssets dates t) (singleSignal (dynamicAssets dates t) s)
      (lsSize fee E leverage price) = .ok r)
    (a : String) (e : Int) (hae : (a, some e) ∈ dates) (het : e ≤ t) :
    a ∈ r.fullWeights.map (·.1) ∧ (a, s) ∈ r.fullWeights :=
  let ⟨h1, h2, _⟩ := C19_from dates t held s _ (lsSize_keys fee E leverage price) r hr a e hae het
  ⟨h1, h2⟩

end Lawful

/-! ## Non-vacuity

`D` enters at 7, `C` at 10, `A` at 5, `B` has no entry date (dictionary order `D, B, C, A`). -/

section Examples

noncomputable local instance instNumOpsQ19 : NumOps ℚ := fieldNumOps ℚ
local instance instLawfulQ19 : LawfulNumOps ℚ := fieldNumOps_lawful ℚ

def exDates : List (String × Option Int) := [("D", some 7), ("B", none), ("C", some 10), ("A", some 5)]

example : dynamicAssets exDates 4 = [] := by decide
example : dynamicAssets exDates 5 = ["A"] := by decide
/-- inclusive at the entry time 7, dictionary order kept -/
example : dynamicAssets exDates 7 = ["D", "A"] := by decide
/-- `B` (no entry date) never appears -/
example : dynamicAssets exDates 1000 = ["D", "C", "A"] := by decide
example : staticAssets ["X", "Y", "X"] 3 = ["X", "Y", "X"] := rfl
example : singleSignal (dynamicAssets exDates 7) (1 : ℚ) = [("D", 1), ("A", 1)] := by decide +kernel

example : equalWeight (2 : ℚ) [("A", 5), ("B", 7), ("C", 0)] = [("A", 2 / 3), ("B", 2 / 3), ("C", 2 / 3)] := by
  decide +kernel
example : ((equalWeight (2 : ℚ) [("A", 5), ("B", 7), ("C", 0)]).map (·.2)).sum = 2 :=
  (C19_equal (2 : ℚ) [("A", 5), ("B", 7), ("C", 0)]).2.2 (by simp)

def exHeld19 : List (String × Int) := [("A", 3)]
def exPrice19 : String → Option ℚ := fun _ => some 10

theorem exFw19 : fullWeightVector exHeld19 (dynamicAssets exDates 7) (singleSignal (dynamicAssets exDates 7) (1 : ℚ))
    = [("A", 1), ("D", 1)] := by
  rw [show dynamicAssets exDates 7 = ["D", "A"] by decide +kernel]
  unfold fullWeightVector
  rw [show fullAssetList exHeld19 ["D", "A"] = ["A", "D"] from
    sortDedup_eq_of_forall (by decide +kernel) (by decide +kernel)]
  decide +kernel

theorem exTiny19 : (NumOps.tiny : ℚ) = 1 / 100000000 := fieldNumOps_tiny ℚ

theorem exDw19 : dwSize (.zero) (1000 : ℚ) 0 exPrice19 [("A", 1), ("D", 1)] = .ok [("A", 50), ("D", 50)] := by
  have hS : (([("A", 1), ("D", 1)] : Weights ℚ).map (·.2)).sum = 2 := by decide +kernel
  rw [dwSize_eq, if_pos ⟨by simp, by intro _ _; rfl⟩, hS, sized, sortByKey_of_pairwise_lt (by decide +kernel)]
  simp only [List.map_cons, List.map_nil, exPrice19, Option.getD_some,
    normScale_of_tiny_lt (s := (2 : ℚ)) (by decide +kernel)]
  rw [(dwQuantity_eq_iff _ _ _ _ (by decide +kernel) 50).mpr (by decide +kernel)]

/-- the rebalance at `t = 7` with `A` (entered at 5) held: `D` is weighted and ordered from its entry time on,
`C` (enters at 10) and `B` (never) are neither weighted nor ordered -/
theorem exPcm19 : pcmCall exHeld19 (dynamicAssets exDates 7) (singleSignal (dynamicAssets exDates 7) (1 : ℚ))
      (dwSize (.zero) (1000 : ℚ) 0 exPrice19) =
    .ok ⟨[("A", 1), ("D", 1)], [("A", 47), ("D", 50)]⟩ := by
  refine pcmCall_ok_iff.mpr ⟨_, by rw [exFw19]; exact exDw19, ?_⟩
  rw [exFw19, rebalanceOrders_of_sorted (.refl _) (by decide +kernel)]
  rfl

example := C19_pcm_invariant_dw (.zero) (1000 : ℚ) 0 exPrice19 exDates 6 7 (by decide) exHeld19
  (by simp [exHeld19, exDates]) 1 _ exPcm19
example := C19_from_dw (.zero) (1000 : ℚ) 0 exPrice19 exDates 7 exHeld19 1 _ exPcm19 "D" 7
  (by simp [exDates]) (le_refl _)

/-- empty holdings, a sizer that returns one share for every key it is given -/
def exStub19 : List (String × ℚ) → Except Err (List (String × Int)) :=
  fun w => .ok ((sortByKey w).map fun x => (x.1, 1))

theorem exStub19_keys : SizerKeys exStub19 := by
  intro w target h
  cases h
  simp [List.map_map, Function.comp_def]

example := C19_pcm_only exDates 7 (1 : ℚ) exStub19 exStub19_keys _ (pcmCall_ok_iff.mpr ⟨_, rfl, rfl⟩)

end Examples

end Qs
