import QsProofs.Lemmas.Stats
import Mathlib.Data.Rat.Floor
import Mathlib.Tactic.NormNum

/-!
# C17 — Performance statistics match their definitions for every equity curve

For any positive equity curve, period returns and cumulative returns compound consistently (weekly, monthly
and yearly aggregates each compound to the same total return as the daily series), the drawdown at each date
equals 1 − value / running maximum with the running maximum including the first observation, and maximum
drawdown and its duration are the maximum and the longest consecutive under-water run of that series.  CAGR
equals final cumulative return ^ (periods / number of observations) − 1, Sharpe and Sortino equal
sqrt(periods) × mean return / population deviation of all (resp. negative) returns; all of them are unchanged
when equity is multiplied by a positive constant, and the tearsheet and JSON export report the same numbers.

All theorems are about the functions of `QsModel/Stats.lean`.

* "The tearsheet and the JSON export report the same numbers": in the model both reporters are the same
  functions (`createDrawdowns`, `createCagr`, …) applied to `cumReturnsOf (returnsOf equity)`, so that clause
  is a statement about the Python code (both call `performance.py`), not about the model; nothing to prove here.
* The entries of a list are addressed with `l[t]?`; the running maximum at `t` is characterised as the
  greatest element of the prefix `cum.take (t + 1)`, which contains `cum[0]`.
* `C17_returns`, `C17_compound`, `C17_maxdd`, `C17_duration`, `C17_defs` need no positivity of the curve;
  scale invariance needs only `k ≠ 0` (`C17_scale_ne`; `C17_scale` is stated for `0 < k`).  Positivity of the
  curve is used for `C17_cum` (division by `eq[t]`) and for
  the form `1 − value / running maximum` and the range `[0, 1)` in `C17_drawdown`.
-/

namespace Qs
open Num

section
variable {α : Type} [Field α] [LinearOrder α] [IsStrictOrderedRing α] [FloorRing α] [NumOps α] [LawfulNumOps α]

/-- C17 (returns): one return per observation, the first is `0`, the others are `eq[t+1] / eq[t] − 1`. -/
theorem C17_returns (eq : List α) (h : eq ≠ []) :
    (returnsOf eq).length = eq.length ∧ (returnsOf eq)[0]? = some 0 ∧
    ∀ (t : Nat) (x y : α), eq[t]? = some x → eq[t + 1]? = some y → (returnsOf eq)[t + 1]? = some (y / x - 1) :=
  ⟨St.returnsOf_length eq, St.returnsOf_zero eq h, St.returnsOf_succ eq⟩

/-- C17 (cumulative returns, definition): entry `t` is the product of the first `t + 1` gross returns. -/
theorem C17_cum_def (rs : List α) (t : Nat) (ht : t < rs.length) :
    (cumReturnsOf rs)[t]? = some ((rs.take (t + 1)).map (1 + ·)).prod := by
  unfold cumReturnsOf
  rw [St.cumProd_getElem? _ rs t ht]
  simp

/-- C17 (cumulative returns): for a positive curve the cumulative return at `t` is `eq[t] / eq[0]`. -/
theorem C17_cum (eq : List α) (h : eq ≠ []) (hpos : ∀ x ∈ eq, 0 < x) :
    cumReturnsOf (returnsOf eq) = eq.map (· / eq.head h) ∧
    ∀ (t : Nat) (x : α), eq[t]? = some x → (cumReturnsOf (returnsOf eq))[t]? = some (x / eq.head h) := by
  have hall : cumReturnsOf (returnsOf eq) = eq.map (· / eq.head h) := by
    cases eq with
    | nil => exact absurd rfl h
    | cons e es => exact St.cumReturnsOf_returnsOf e es hpos
  refine ⟨hall, ?_⟩
  intro t x hx
  rw [hall, List.getElem?_map, hx]
  rfl

/-! ## Aggregation compounds consistently -/

/-- C17 (compounding, any grouping): for every key function, compounding each group and then compounding
the groups gives the same total as compounding the whole series. -/
theorem C17_compound_any {γ : Type} (key : γ → List Int) (val : γ → α) (l : List γ) :
    ((groupByKey key l).map fun g => 1 + compound (g.2.map val)).prod = (l.map fun x => 1 + val x).prod :=
  St.prod_groupByKey key val l

/-- `groupByKey` is a partition of its input: the keys of the groups are pairwise distinct and are exactly
the keys occurring in the input, each group holds exactly the elements with its key (in input order, so it is
non-empty), and the groups concatenated are a permutation of the input. -/
theorem C17_partition {γ : Type} (key : γ → List Int) (l : List γ) :
    ((groupByKey key l).map (·.1)).Nodup ∧
    (∀ k, k ∈ (groupByKey key l).map (·.1) ↔ k ∈ l.map key) ∧
    (∀ g ∈ groupByKey key l, g.2 = l.filter (fun x => key x == g.1) ∧ g.2 ≠ []) ∧
    ((groupByKey key l).flatMap (·.2)).Perm l :=
  ⟨St.groupByKey_keys_nodup key l, St.mem_keys_groupByKey key l,
    fun g hg => ⟨St.groupByKey_group_eq key l g hg, St.groupByKey_group_ne_nil key l g hg⟩, St.groupByKey_perm key l⟩

/-- C17 (compounding, one period): what `aggregate_returns` reports for a period, plus one, is the product of
the period's gross returns. -/
theorem C17_compound_group (rs : List α) : 1 + compound rs = (rs.map (1 + ·)).prod := St.one_add_compound rs

/-- C17 (compounding): the weekly, monthly and yearly aggregates each compound to the same total as the daily
returns, and that total is the last cumulative return. -/
theorem C17_compound (p : Period) (dated : List (Int × α)) :
    ((aggregateReturns p dated).map fun g => 1 + g.2).prod = (dated.map fun x => 1 + x.2).prod ∧
    (dated ≠ [] →
      (cumReturnsOf (dated.map (·.2))).getLastD zero = (dated.map fun x => 1 + x.2).prod) := by
  refine ⟨St.prod_aggregateReturns p dated, ?_⟩
  intro h
  unfold cumReturnsOf
  rw [St.cumProd_getLastD _ _ _ (by simpa using h), List.map_map]
  simp only [one_eq, one_mul]
  rfl

/-- the aggregate has one entry per calendar period that occurs, and its value is the compounded return of
exactly the returns dated in that period, in date order -/
theorem C17_aggregate (p : Period) (dated : List (Int × α)) :
    ((aggregateReturns p dated).map (·.1)).Nodup ∧
    (∀ k, k ∈ (aggregateReturns p dated).map (·.1) ↔ k ∈ dated.map (fun x => periodKey p x.1)) ∧
    ∀ g ∈ aggregateReturns p dated,
      g.2 = compound ((dated.filter fun x => periodKey p x.1 == g.1).map (·.2)) := by
  -- the aggregate is, up to order, one entry per key of `gkeys` with the compounded filter of the input
  have hperm := St.aggregateReturns_perm p dated
  rw [St.groupByKey_eq, List.map_map] at hperm
  have hkeys : ((aggregateReturns p dated).map (·.1)).Perm (St.gkeys (fun x : Int × α => periodKey p x.1) dated) :=
    (hperm.map (·.1)).trans (List.Perm.of_eq (by rw [List.map_map]; exact List.map_id' _))
  refine ⟨hkeys.nodup_iff.mpr (St.gkeys_nodup _ dated), fun k => by rw [hkeys.mem_iff, St.mem_gkeys],
    fun g hg => ?_⟩
  obtain ⟨k, -, rfl⟩ := List.mem_map.mp (hperm.mem_iff.mp hg)
  rfl

/-- C17 (drawdown, general form): one drawdown per observation; the first is `0`; the one at `t + 1` is
`(M − cum[t+1]) / M` where `M` is the greatest of `cum[0], …, cum[t+1]`. -/
theorem C17_drawdown_def (cum : List α) :
    (drawdownsOf cum).length = cum.length ∧ (cum ≠ [] → (drawdownsOf cum)[0]? = some 0) ∧
    ∀ (t : Nat) (v : α), cum[t + 1]? = some v →
      ∃ M, (∀ u ∈ cum.take (t + 2), u ≤ M) ∧ M ∈ cum.take (t + 2) ∧
        (highWaterMarks cum)[t + 1]? = some M ∧ (drawdownsOf cum)[t + 1]? = some ((M - v) / M) := by
  refine ⟨St.drawdownsOf_length cum, St.drawdownsOf_zero cum, ?_⟩
  intro t v hv
  obtain ⟨M, hM, h1, h2⟩ := St.highWaterMarks_spec cum (t + 1) (List.getElem?_eq_some_iff.mp hv).1
  exact ⟨M, h1, h2, hM, St.drawdownsOf_getElem? cum (t + 1) M v hM hv⟩

/-- C17 (drawdown): for a positive series the drawdown at every `t` (including `t = 0`) is
`1 − cum[t] / M_t`, where the running maximum `M_t` is the greatest of `cum[0], …, cum[t]` (the first
observation included), and it lies in `[0, 1)`. -/
theorem C17_drawdown (cum : List α) (hpos : ∀ x ∈ cum, 0 < x) (t : Nat) (v : α) (hv : cum[t]? = some v) :
    ∃ M, (∀ u ∈ cum.take (t + 1), u ≤ M) ∧ M ∈ cum.take (t + 1) ∧
      (highWaterMarks cum)[t]? = some M ∧
      (drawdownsOf cum)[t]? = some (1 - v / M) ∧ 0 ≤ 1 - v / M ∧ 1 - v / M < 1 := by
  have ht : t < cum.length := (List.getElem?_eq_some_iff.mp hv).1
  obtain ⟨M, hM, h1, h2⟩ := St.highWaterMarks_spec cum t ht
  have hMpos : 0 < M := hpos M (List.mem_of_mem_take h2)
  have hvpos : 0 < v := hpos v (List.mem_of_getElem? hv)
  have hvM : v ≤ M := by
    apply h1
    rw [List.mem_iff_getElem?]
    exact ⟨t, by rw [List.getElem?_take_of_lt (Nat.lt_succ_self t)]; exact hv⟩
  refine ⟨M, h1, h2, hM, ?_, ?_, ?_⟩
  · rw [St.drawdownsOf_getElem? cum t M v hM hv, sub_div, div_self hMpos.ne']
  · rw [sub_nonneg, div_le_one hMpos]; exact hvM
  · exact sub_lt_self 1 (div_pos hvpos hMpos)

/-- C17 (drawdown of an equity curve): for a positive equity curve the drawdown reported at `t` is
`1 − eq[t] / max (eq[0], …, eq[t])`. -/
theorem C17_drawdown_equity (eq : List α) (hpos : ∀ x ∈ eq, 0 < x) (t : Nat) (v : α) (hv : eq[t]? = some v) :
    ∃ M, (∀ u ∈ eq.take (t + 1), u ≤ M) ∧ M ∈ eq.take (t + 1) ∧
      (drawdownsOf (cumReturnsOf (returnsOf eq)))[t]? = some (1 - v / M) := by
  -- the cumulative returns are the curve divided by its first value, and drawdowns do not see the scale
  obtain ⟨M, h1, h2, -, h4, -⟩ := C17_drawdown eq hpos t v hv
  refine ⟨M, h1, h2, ?_⟩
  cases eq with
  | nil => simp at hv
  | cons e es => rw [St.cumReturnsOf_returnsOf e es hpos, St.drawdownsOf_div e (hpos e (by simp))]; exact h4

/-- C17 (maximum drawdown): `create_drawdowns` returns the drawdown series, its maximum (an entry that no
entry exceeds) and `longestRun` of it. -/
theorem C17_maxdd (cum : List α) (h : cum ≠ []) :
    (createDrawdowns cum).1 = drawdownsOf cum ∧
    (∀ d ∈ drawdownsOf cum, d ≤ (createDrawdowns cum).2.1) ∧ (createDrawdowns cum).2.1 ∈ drawdownsOf cum ∧
    (createDrawdowns cum).2.2 = longestRun (drawdownsOf cum) := by
  obtain ⟨h1, h2⟩ := St.maxOf_spec (drawdownsOf cum) (St.drawdownsOf_ne_nil h)
  exact ⟨rfl, h1, h2, rfl⟩

/-- C17 (duration): `longestRun dd` is the length of the longest block of consecutive non-zero entries of
`dd`: some contiguous sublist of that length has only non-zero entries, and no contiguous sublist with only
non-zero entries is longer. -/
theorem C17_duration (dd : List α) :
    (∃ run, run <:+: dd ∧ (∀ x ∈ run, x ≠ 0) ∧ run.length = longestRun dd) ∧
    (∀ run, run <:+: dd → (∀ x ∈ run, x ≠ 0) → run.length ≤ longestRun dd) := by
  rw [St.longestRun_eq]
  obtain ⟨⟨run, ⟨h1, h2⟩, h3⟩, h4⟩ := (St.longestRun_invariant dd).2
  exact ⟨⟨run, h1, h2, h3⟩, fun r hr hnz => h4 r ⟨hr, hnz⟩⟩

/-- C17 (definitions): CAGR is `last cumulative return ^ (1 / (n / P)) − 1` with `1 / (n / P) = P / n`, for any
number of periods `P` (an integer or not: `P` is used as it is, never truncated);
Sharpe is `sqrt P · mean / sqrt (population variance)`; Sortino uses the population variance of the negative
returns only — for every interpretation of `sqrt` and `pow`. -/
theorem C17_defs [TransOps α] (cum rs : List α) (P : α) :
    createCagr cum P = TransOps.pow (cum.getLastD 0) (1 / ((cum.length : α) / P)) - 1 ∧
    (1 / ((cum.length : α) / P) = P / (cum.length : α)) ∧
    createSharpe rs P =
      TransOps.sqrt P * (rs.sum / (rs.length : α)) / TransOps.sqrt (popVar rs) ∧
    createSortino rs P =
      TransOps.sqrt P * (rs.sum / (rs.length : α)) / TransOps.sqrt (popVar (rs.filter (· < 0))) ∧
    popVar rs = (rs.map fun x => (x - rs.sum / (rs.length : α)) ^ 2).sum / (rs.length : α) := by
  refine ⟨?_, one_div_div _ _, ?_, ?_, Sig.popVar_eq rs⟩
  · simp only [createCagr, ofInt_eq, Int.cast_natCast, Int.cast_zero, Int.cast_one]
  · simp only [createSharpe, popStd, Sig.meanOf_eq]
  · simp only [createSortino, popStd, Sig.meanOf_eq, lt_eq, zero_eq]

/-- C17 (scale): multiplying the equity curve by a non-zero constant leaves the returns unchanged. -/
theorem C17_scale_ne (k : α) (hk : k ≠ 0) (eq : List α) : returnsOf (eq.map (k * ·)) = returnsOf eq := by
  cases eq with
  | nil => rfl
  | cons e es =>
    rw [List.map_cons, St.returnsOf_cons, St.returnsOf_cons, ← List.map_cons, Sig.pctChanges_scale k hk]

/-- C17 (scale): multiplying the equity curve by a positive constant leaves the returns, and with them every
statistic (all are functions of the returns), unchanged. -/
theorem C17_scale [TransOps α] (k : α) (hk : 0 < k) (eq : List α) (P : α) (p : Period) (dates : List Int) :
    returnsOf (eq.map (k * ·)) = returnsOf eq ∧
    cumReturnsOf (returnsOf (eq.map (k * ·))) = cumReturnsOf (returnsOf eq) ∧
    createDrawdowns (cumReturnsOf (returnsOf (eq.map (k * ·)))) =
      createDrawdowns (cumReturnsOf (returnsOf eq)) ∧
    createCagr (cumReturnsOf (returnsOf (eq.map (k * ·)))) P = createCagr (cumReturnsOf (returnsOf eq)) P ∧
    createSharpe (returnsOf (eq.map (k * ·))) P = createSharpe (returnsOf eq) P ∧
    createSortino (returnsOf (eq.map (k * ·))) P = createSortino (returnsOf eq) P ∧
    aggregateReturns p (dates.zip (returnsOf (eq.map (k * ·)))) = aggregateReturns p (dates.zip (returnsOf eq)) := by
  have h := C17_scale_ne k hk.ne' eq
  rw [h]
  exact ⟨rfl, rfl, rfl, rfl, rfl, rfl, rfl⟩

end

/-! ## Non-vacuity: the curve 1 000 000, 900 000, 800 000, 850 000, 700 000 (the first point is the peak) -/

section Examples

noncomputable local instance instNumOpsQ17 : NumOps ℚ := fieldNumOps ℚ
local instance instLawfulQ17 : LawfulNumOps ℚ := fieldNumOps_lawful ℚ

def exCurve17 : List ℚ := [1000000, 900000, 800000, 850000, 700000]

theorem exCurve17_pos : ∀ x ∈ exCurve17, 0 < x := by decide +kernel

theorem exCum17 : cumReturnsOf (returnsOf exCurve17) = [1, 9 / 10, 4 / 5, 17 / 20, 7 / 10] := by
  rw [(C17_cum exCurve17 (by decide) exCurve17_pos).1]
  decide +kernel

theorem exRet17 : returnsOf exCurve17 = [0, -1 / 10, -1 / 9, 1 / 16, -3 / 17] := by
  decide +kernel

theorem exDD17 : drawdownsOf [(1 : ℚ), 9 / 10, 4 / 5, 17 / 20, 7 / 10] = [0, 1 / 10, 1 / 5, 3 / 20, 3 / 10] := by
  decide +kernel

/-- the drawdown series of the example, its maximum `3/10` and its duration `4` (the curve never recovers
its first value) -/
example : createDrawdowns (cumReturnsOf (returnsOf exCurve17)) =
    ([0, 1 / 10, 1 / 5, 3 / 20, 3 / 10], 3 / 10, 4) := by
  decide +kernel

/-- `C17_drawdown` at `t = 3` of the example: running maximum `1` (the first observation), drawdown `3/20` -/
example : ∃ M : ℚ, (∀ u ∈ [(1 : ℚ), 9 / 10, 4 / 5, 17 / 20], u ≤ M) ∧ M ∈ [(1 : ℚ), 9 / 10, 4 / 5, 17 / 20] ∧
    (drawdownsOf [(1 : ℚ), 9 / 10, 4 / 5, 17 / 20, 7 / 10])[3]? = some (1 - 17 / 20 / M) := by
  obtain ⟨M, h1, h2, _, h4, _⟩ := C17_drawdown [(1 : ℚ), 9 / 10, 4 / 5, 17 / 20, 7 / 10]
    (by decide +kernel) 3 (17 / 20) rfl
  exact ⟨M, h1, h2, h4⟩

/-- scaling the example curve by 3 changes nothing -/
example [TransOps ℚ] : createSharpe (returnsOf (exCurve17.map (3 * ·))) 252 = createSharpe (returnsOf exCurve17) 252 := by
  obtain ⟨-, -, -, -, hsharpe, -, -⟩ := C17_scale 3 (by norm_num) exCurve17 252 .monthly []
  exact hsharpe

/-- compounding: the dated returns `0, +10 %, −10 %` compound to `0.99` under every aggregation -/
example (p : Period) :
    ((aggregateReturns p [(0, (0 : ℚ)), (1, 1 / 10), (40, -1 / 10)]).map fun g => 1 + g.2).prod = 99 / 100 := by
  rw [(C17_compound p _).1]
  decide +kernel

/-- a concrete grouping: keys are pairwise distinct, each group keeps input order -/
example : groupByKey (fun x : Int × Int => [x.1 / 7]) [(0, 5), (8, 6), (1, 7)] =
    [([1], [(8, 6)]), ([0], [(0, 5), (1, 7)])] := by decide

/-- a run of three non-zero entries between zeros, then one of two -/
example : longestRun [(0 : ℚ), 1, 2, 3, 0, 4, 5] = 3 := by
  decide +kernel

end Examples

end Qs
