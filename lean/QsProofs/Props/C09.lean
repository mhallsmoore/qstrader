import QsProofs.Lemmas.Pcm
import Mathlib.Data.Rat.Floor

/-!
# C09 — Rebalancing trades the portfolio exactly onto its target

At every rebalance the generated orders are exactly target quantity minus currently held quantity for
every asset that is in the current universe, currently held, or given a weight by the alpha model, with
no zero-quantity or duplicate orders and in ascending asset order; once those orders fill, holdings equal
the target.  Any held asset that receives no weight is fully liquidated, and the weights recorded as the
target allocation cover exactly that asset set (zero where the alpha model is silent).

All theorems are about `Qs.sortDedup / fullAssetList / fullWeightVector / rebalanceOrders / pcmCall`
(`QsModel/Pcm.lean`) and `Qs.sortByKey / dwSize / lsSize` (`QsModel/Sizer.lean`).

* Python dictionaries are association lists.  `held` and `alpha` are dicts, hence the hypotheses
  `(held.map (·.1)).Nodup`, `(alpha.map (·.1)).Nodup` where a theorem needs them; "`held a`" is
  `(held.lookup a).getD 0`.  The universe `uni` is an arbitrary list (duplicates allowed).
* `SizerKeys sizer` / `SizerZero sizer` (`QsProofs/Lemmas/Pcm.lean`) are the two facts used about an order
  sizer: it returns exactly the keys it is given in ascending order, and a zero weight gets quantity 0.
  `C09_sizer_keys` / `C09_sizer_zero` prove them for `dwSize` and `lsSize`; each sizer-dependent property is
  proved once generically and then instantiated (`…_dw`, `…_ls`).
* `applyOrders held orders a = held a + Σ (quantities of the orders for a)` (`QsProofs/Lemmas/Pcm.lean`)
  is the arithmetic effect of filling every order in full (that the broker does fill every queued order in
  full is property C04).
-/


namespace Qs

/-! ## The asset set and the recorded weights (any carrier, no laws needed) -/

section Generic
variable {α : Type} [NumOps α]

theorem C09_sortDedup (xs : List String) :
    (sortDedup xs).Pairwise (· < ·) ∧ (sortDedup xs).Nodup ∧ ∀ a, a ∈ sortDedup xs ↔ a ∈ xs :=
  ⟨sortDedup_pairwise_lt xs, sortDedup_nodup xs, fun _ => mem_sortDedup⟩

/-- C09 (asset set): the keys `K` of the full weight vector are, as a set, held ∪ universe ∪ alpha keys; they are
pairwise distinct; the first `|fullAssetList|` of them are `sortDedup (held.keys ++ uni)` — strictly ascending,
exactly the held-or-universe assets — and the rest are the alpha-only keys in alpha's order. -/
theorem C09_assets (held : List (String × Int)) (uni : List String) (alpha : List (String × α))
    (hα : (alpha.map (·.1)).Nodup) :
    let K := (fullWeightVector held uni alpha).map (·.1)
    let n := (fullAssetList held uni).length
    (∀ a, a ∈ K ↔ a ∈ held.map (·.1) ∨ a ∈ uni ∨ a ∈ alpha.map (·.1)) ∧
    K.Nodup ∧
    K.take n = sortDedup (held.map (·.1) ++ uni) ∧
    (sortDedup (held.map (·.1) ++ uni)).Pairwise (· < ·) ∧
    (∀ a, a ∈ sortDedup (held.map (·.1) ++ uni) ↔ a ∈ held.map (·.1) ∨ a ∈ uni) ∧
    K.drop n = (alpha.map (·.1)).filter (fun k => decide (k ∉ held.map (·.1) ∧ k ∉ uni)) := by
  intro K n
  have hK : K = fullAssetList held uni ++
      (alpha.map (·.1)).filter (fun k => decide (k ∉ fullAssetList held uni)) :=
    fullWeightVector_keys held uni alpha
  refine ⟨fun a => mem_fullWeightVector_keys, fullWeightVector_keys_nodup hα, ?_, sortDedup_pairwise_lt _,
    fun a => by rw [mem_sortDedup, List.mem_append], ?_⟩
  · rw [hK, List.take_left' rfl]; rfl
  · rw [hK, List.drop_left' rfl]
    apply List.filter_congr
    intro k _
    simp only [mem_fullAssetList, not_or]

/-- C09 (recorded allocation): every entry `(a, w)` of the full weight vector carries alpha's weight for `a` if
alpha has one, and zero where the alpha model is silent.  (The vector is what `pcmCall` records: `C09_orders`.) -/
theorem C09_record (held : List (String × Int)) (uni : List String) (alpha : List (String × α))
    (hα : (alpha.map (·.1)).Nodup) (a : String) (w : α)
    (h : (a, w) ∈ fullWeightVector held uni alpha) :
    w = (alpha.lookup a).getD Num.zero ∧
    (∀ v, (a, v) ∈ alpha → w = v) ∧
    (a ∉ alpha.map (·.1) → w = Num.zero) := by
  have hw := fullWeightVector_weight hα h
  refine ⟨hw, fun v hv => ?_, fun hn => ?_⟩
  · rw [hw, lookup_eq_some_of_mem hα hv]; rfl
  · rw [hw, (lookup_eq_none_iff_not_mem_keys alpha a).mpr hn]; rfl

/-- every asset of the set has exactly one recorded weight -/
theorem C09_record_total (held : List (String × Int)) (uni : List String) (alpha : List (String × α))
    (hα : (alpha.map (·.1)).Nodup) (a : String)
    (ha : a ∈ held.map (·.1) ∨ a ∈ uni ∨ a ∈ alpha.map (·.1)) :
    (a, (alpha.lookup a).getD Num.zero) ∈ fullWeightVector held uni alpha := by
  obtain ⟨⟨a', w⟩, hm, rfl⟩ := List.mem_map.mp (mem_fullWeightVector_keys.mpr ha)
  rw [← fullWeightVector_weight hα hm]
  exact hm

/-- C09 (orders): if the sizer returns `target` (a dict: keys pairwise distinct), `pcmCall` records the full weight
vector and its orders are, in ascending asset order, `target a − held a` for every target asset where that
difference is non-zero; order assets are strictly ascending (so no duplicates), no order has quantity 0, and an
order `(a, d)` exists iff `a` is a target asset with `d = target a − held a ≠ 0`. -/
theorem C09_orders (held : List (String × Int)) (uni : List String) (alpha : List (String × α))
    (sizer : List (String × α) → Except Err (List (String × Int))) (target : List (String × Int))
    (r : PcmResult α)
    (hs : sizer (fullWeightVector held uni alpha) = .ok target)
    (ht : (target.map (·.1)).Nodup)
    (hr : pcmCall held uni alpha sizer = .ok r) :
    r.fullWeights = fullWeightVector held uni alpha ∧
    r.orders = (sortByKey target).filterMap (fun x =>
      if x.2 - (held.lookup x.1).getD 0 ≠ 0 then some (x.1, x.2 - (held.lookup x.1).getD 0) else none) ∧
    (r.orders.map (·.1)).Pairwise (· < ·) ∧
    (r.orders.map (·.1)).Nodup ∧
    (∀ o ∈ r.orders, o.2 ≠ 0) ∧
    (∀ a d, (a, d) ∈ r.orders ↔ ∃ q, (a, q) ∈ target ∧ d = q - (held.lookup a).getD 0 ∧ d ≠ 0) := by
  obtain ⟨t', ht', rfl⟩ := pcmCall_ok_iff.mp hr
  rw [hs] at ht'; cases ht'
  exact ⟨rfl, rebalanceOrders_eq_filterMap target held, rebalanceOrders_keys_pairwise_lt ht held,
    nodup_of_pairwise_lt (rebalanceOrders_keys_pairwise_lt ht held),
    fun o ho => rebalanceOrders_ne_zero ho, fun a d => mem_rebalanceOrders⟩

/-- C09 (orders cover the whole asset set), generic in a sizer that returns exactly the keys it is given
(`SizerKeys`; true of `dwSize` and `lsSize`, see `C09_sizer_keys`): the target has exactly one quantity for every
asset that is held, in the universe or weighted by alpha, its keys are that set in strictly ascending order, and
the order for such an asset is `target a − held a` exactly when that is non-zero; no other asset is ordered. -/
theorem C09_orders_exact {held : List (String × Int)} {uni : List String} {alpha : List (String × α)}
    {sizer : List (String × α) → Except Err (List (String × Int))} (hk : SizerKeys sizer)
    (hα : (alpha.map (·.1)).Nodup) {r : PcmResult α}
    (hr : pcmCall held uni alpha sizer = .ok r) :
    ∃ target, sizer (fullWeightVector held uni alpha) = .ok target ∧
      target.map (·.1) = sortDedup (held.map (·.1) ++ uni ++ alpha.map (·.1)) ∧
      (target.map (·.1)).Pairwise (· < ·) ∧
      (∀ a, a ∈ held.map (·.1) ∨ a ∈ uni ∨ a ∈ alpha.map (·.1) →
        ∃ q, (a, q) ∈ target ∧ (∀ q', (a, q') ∈ target → q' = q) ∧
          ∀ d, (a, d) ∈ r.orders ↔ d = q - (held.lookup a).getD 0 ∧ d ≠ 0) ∧
      (∀ o ∈ r.orders, o.1 ∈ held.map (·.1) ∨ o.1 ∈ uni ∨ o.1 ∈ alpha.map (·.1)) ∧
      r.orders = target.filterMap (fun x =>
        if x.2 - (held.lookup x.1).getD 0 ≠ 0 then some (x.1, x.2 - (held.lookup x.1).getD 0) else none) := by
  obtain ⟨target, hs, rfl, hmem, hO⟩ := pcmCall_keys hk hr
  have hkeys : target.map (·.1) = sortDedup (held.map (·.1) ++ uni ++ alpha.map (·.1)) := by
    rw [hk _ _ hs, sortByKey_keys_eq_sortDedup (fullWeightVector_keys_nodup hα)]
    exact sortDedup_congr fun a => by
      rw [mem_fullWeightVector_keys, List.mem_append, List.mem_append, or_assoc]
  have hlt : (target.map (·.1)).Pairwise (· < ·) := hkeys ▸ sortDedup_pairwise_lt _
  have hnd := nodup_of_pairwise_lt hlt
  refine ⟨target, hs, hkeys, hlt, fun a ha => ?_, fun o ho => (hmem _).mp (hO o ho), ?_⟩
  · obtain ⟨⟨a', q⟩, hq, rfl⟩ := List.mem_map.mp ((hmem a).mpr ha)
    exact ⟨q, hq, fun q' hq' => eq_of_nodup_keys hnd hq' hq, mem_rebalanceOrders_of_mem hnd hq⟩
  · show rebalanceOrders target held = _
    rw [rebalanceOrders_eq_filterMap, sortByKey_of_pairwise_lt hlt]

/-- C09 (liquidation), generic in a sizer with `SizerKeys` and `SizerZero`: a held asset that alpha does not
weight has target quantity 0 (and only that), so its order is exactly `−held a` when `held a ≠ 0` and there is no
order for it when `held a = 0`. -/
theorem C09_liquid {held : List (String × Int)} {uni : List String} {alpha : List (String × α)}
    {sizer : List (String × α) → Except Err (List (String × Int))} (hk : SizerKeys sizer)
    (hz : SizerZero sizer) (hα : (alpha.map (·.1)).Nodup) (hh : (held.map (·.1)).Nodup) {r : PcmResult α}
    (hr : pcmCall held uni alpha sizer = .ok r) {a : String} {h : Int}
    (ha : (a, h) ∈ held) (hna : a ∉ alpha.map (·.1)) :
    ∃ target, sizer (fullWeightVector held uni alpha) = .ok target ∧
      (a, 0) ∈ target ∧ (∀ q, (a, q) ∈ target → q = 0) ∧
      (a, (Num.zero : α)) ∈ r.fullWeights ∧
      (∀ d, (a, d) ∈ r.orders ↔ d = -h ∧ h ≠ 0) := by
  obtain ⟨target, hs, rfl, -, -⟩ := pcmCall_keys hk hr
  have hnd := hk.nodup hs (fullWeightVector_keys_nodup hα)
  have hfw : (a, (Num.zero : α)) ∈ fullWeightVector held uni alpha := by
    have := C09_record_total held uni alpha hα a (Or.inl (List.mem_map_of_mem (f := (·.1)) ha))
    rwa [(lookup_eq_none_iff_not_mem_keys alpha a).mpr hna] at this
  have h0 : (a, (0 : Int)) ∈ target := hz _ _ a hs hfw
  refine ⟨target, hs, h0, fun q hq => eq_of_nodup_keys hnd hq h0, hfw, fun d => ?_⟩
  refine (mem_rebalanceOrders_of_mem hnd h0 d).trans ?_
  rw [lookup_eq_some_of_mem hh ha, Option.getD_some]
  omega

/-- C09 (reach, arithmetic): filling the rebalance orders moves every target asset to its target quantity and
leaves every other asset's holding unchanged. -/
theorem C09_reach (target held : List (String × Int)) (ht : (target.map (·.1)).Nodup) :
    (∀ a q, (a, q) ∈ target → applyOrders held (rebalanceOrders target held) a = q) ∧
    (∀ a, a ∉ target.map (·.1) →
      applyOrders held (rebalanceOrders target held) a = (held.lookup a).getD 0) := by
  refine ⟨fun a q hm => ?_, fun a hn => ?_⟩
  · rw [applyOrders_rebalanceOrders ht, lookup_eq_some_of_mem ht hm]; rfl
  · rw [applyOrders_rebalanceOrders ht, (lookup_eq_none_iff_not_mem_keys target a).mpr hn]; rfl

/-- C09 (reach, through `pcmCall`, any sizer returning a dict). -/
theorem C09_reach_pcm (held : List (String × Int)) (uni : List String) (alpha : List (String × α))
    (sizer : List (String × α) → Except Err (List (String × Int))) (target : List (String × Int))
    (r : PcmResult α)
    (hs : sizer (fullWeightVector held uni alpha) = .ok target)
    (ht : (target.map (·.1)).Nodup)
    (hr : pcmCall held uni alpha sizer = .ok r) :
    (∀ a q, (a, q) ∈ target → applyOrders held r.orders a = q) ∧
    (∀ a, a ∉ target.map (·.1) → applyOrders held r.orders a = (held.lookup a).getD 0) := by
  obtain ⟨t', ht', rfl⟩ := pcmCall_ok_iff.mp hr
  rw [hs] at ht'; cases ht'
  exact C09_reach target held ht

/-- C09 (reach, whole book), sizer with `SizerKeys`: after the fills the holding of *every* asset equals the target
(`0` for an asset the target does not mention — such an asset is not held either). -/
theorem C09_reach_exact {held : List (String × Int)} {uni : List String} {alpha : List (String × α)}
    {sizer : List (String × α) → Except Err (List (String × Int))} (hk : SizerKeys sizer)
    (hα : (alpha.map (·.1)).Nodup) {r : PcmResult α}
    (hr : pcmCall held uni alpha sizer = .ok r) :
    ∃ target, sizer (fullWeightVector held uni alpha) = .ok target ∧
      ∀ a, applyOrders held r.orders a = (target.lookup a).getD 0 := by
  obtain ⟨target, hs, rfl, hmem, -⟩ := pcmCall_keys hk hr
  have hnd := hk.nodup hs (fullWeightVector_keys_nodup hα)
  refine ⟨target, hs, fun a => ?_⟩
  show applyOrders held (rebalanceOrders target held) a = _
  rw [applyOrders_rebalanceOrders hnd]
  cases hl : target.lookup a with
  | some q => rfl
  | none =>
    -- an asset the target does not mention is not held
    have : a ∉ held.map (·.1) := fun hh => (lookup_eq_none_iff_not_mem_keys target a).mp hl ((hmem a).mpr (Or.inl hh))
    rw [(lookup_eq_none_iff_not_mem_keys held a).mpr this]; rfl

end Generic

/-! ## The two order sizers (lawful field carrier) -/

section Lawful
variable {α : Type} [Field α] [LinearOrder α] [IsStrictOrderedRing α] [FloorRing α] [NumOps α] [LawfulNumOps α]

/-- `sizer_keys`: a successful `dwSize` / `lsSize` call returns exactly the keys of the weight vector it is given,
in `sortByKey` order. -/
theorem C09_sizer_keys (fee : FeeModel α) (E x : α) (price : String → Option α) (w : Weights α)
    (target : Quantities) :
    (dwSize fee E x price w = .ok target → target.map (·.1) = (sortByKey w).map (·.1)) ∧
    (lsSize fee E x price w = .ok target → target.map (·.1) = (sortByKey w).map (·.1)) :=
  ⟨dwSize_keys fee E x price w target, lsSize_keys fee E x price w target⟩

/-- a zero weight is sized to quantity zero by both sizers: `dwQuantity fee E' 0 p = 0`, `lsQuantity fee E 0 p = 0`
for every fee model and price, and normalisation (or its `isclose` bypass) keeps a zero weight zero. -/
theorem C09_sizer_zero (fee : FeeModel α) (E x : α) (price : String → Option α) (w : Weights α)
    (target : Quantities) (a : String) (hm : (a, (Num.zero : α)) ∈ w) :
    (∀ p : α, dwQuantity fee E 0 p = 0 ∧ lsQuantity fee E 0 p = 0) ∧
    (dwSize fee E x price w = .ok target → (a, 0) ∈ target) ∧
    (lsSize fee E x price w = .ok target → (a, 0) ∈ target) :=
  ⟨fun p => ⟨dwQuantity_zero fee E p, lsQuantity_zero fee E p⟩,
   fun h => dwSize_zero fee E x price w target a h hm,
   fun h => lsSize_zero fee E x price w target a h hm⟩

variable (fee : FeeModel α) (E buffer leverage : α) (price : String → Option α)
variable {held : List (String × Int)} {uni : List String} {alpha : List (String × α)} {r : PcmResult α}

/-- C09 (orders are exactly target − held over the whole asset set), long-only sizer -/
theorem C09_orders_dw (hα : (alpha.map (·.1)).Nodup)
    (hr : pcmCall held uni alpha (dwSize fee E buffer price) = .ok r) :
    ∃ target, dwSize fee E buffer price (fullWeightVector held uni alpha) = .ok target ∧
      target.map (·.1) = sortDedup (held.map (·.1) ++ uni ++ alpha.map (·.1)) ∧
      (target.map (·.1)).Pairwise (· < ·) ∧
      (∀ a, a ∈ held.map (·.1) ∨ a ∈ uni ∨ a ∈ alpha.map (·.1) →
        ∃ q, (a, q) ∈ target ∧ (∀ q', (a, q') ∈ target → q' = q) ∧
          ∀ d, (a, d) ∈ r.orders ↔ d = q - (held.lookup a).getD 0 ∧ d ≠ 0) ∧
      (∀ o ∈ r.orders, o.1 ∈ held.map (·.1) ∨ o.1 ∈ uni ∨ o.1 ∈ alpha.map (·.1)) ∧
      r.orders = target.filterMap (fun x =>
        if x.2 - (held.lookup x.1).getD 0 ≠ 0 then some (x.1, x.2 - (held.lookup x.1).getD 0) else none) :=
  C09_orders_exact (dwSize_keys fee E buffer price) hα hr

/-- C09 (orders are exactly target − held over the whole asset set), long/short sizer -/
theorem C09_orders_ls (hα : (alpha.map (·.1)).Nodup)
    (hr : pcmCall held uni alpha (lsSize fee E leverage price) = .ok r) :
    ∃ target, lsSize fee E leverage price (fullWeightVector held uni alpha) = .ok target ∧
      target.map (·.1) = sortDedup (held.map (·.1) ++ uni ++ alpha.map (·.1)) ∧
      (target.map (·.1)).Pairwise (· < ·) ∧
      (∀ a, a ∈ held.map (·.1) ∨ a ∈ uni ∨ a ∈ alpha.map (·.1) →
        ∃ q, (a, q) ∈ target ∧ (∀ q', (a, q') ∈ target → q' = q) ∧
          ∀ d, (a, d) ∈ r.orders ↔ d = q - (held.lookup a).getD 0 ∧ d ≠ 0) ∧
      (∀ o ∈ r.orders, o.1 ∈ held.map (·.1) ∨ o.1 ∈ uni ∨ o.1 ∈ alpha.map (·.1)) ∧
      r.orders = target.filterMap (fun x =>
        if x.2 - (held.lookup x.1).getD 0 ≠ 0 then some (x.1, x.2 - (held.lookup x.1).getD 0) else none) :=
  C09_orders_exact (lsSize_keys fee E leverage price) hα hr

/-- C09 (liquidation), long-only sizer: a held asset without an alpha weight is recorded with weight zero, sized
to 0 and sold (bought back, if short) in full. -/
theorem C09_liquid_dw (hα : (alpha.map (·.1)).Nodup) (hh : (held.map (·.1)).Nodup)
    (hr : pcmCall held uni alpha (dwSize fee E buffer price) = .ok r) {a : String} {h : Int}
    (ha : (a, h) ∈ held) (hna : a ∉ alpha.map (·.1)) :
    ∃ target, dwSize fee E buffer price (fullWeightVector held uni alpha) = .ok target ∧
      (a, 0) ∈ target ∧ (∀ q, (a, q) ∈ target → q = 0) ∧
      (a, (Num.zero : α)) ∈ r.fullWeights ∧
      (∀ d, (a, d) ∈ r.orders ↔ d = -h ∧ h ≠ 0) :=
  C09_liquid (dwSize_keys fee E buffer price) (dwSize_zero fee E buffer price) hα hh hr ha hna

/-- C09 (liquidation), long/short sizer -/
theorem C09_liquid_ls (hα : (alpha.map (·.1)).Nodup) (hh : (held.map (·.1)).Nodup)
    (hr : pcmCall held uni alpha (lsSize fee E leverage price) = .ok r) {a : String} {h : Int}
    (ha : (a, h) ∈ held) (hna : a ∉ alpha.map (·.1)) :
    ∃ target, lsSize fee E leverage price (fullWeightVector held uni alpha) = .ok target ∧
      (a, 0) ∈ target ∧ (∀ q, (a, q) ∈ target → q = 0) ∧
      (a, (Num.zero : α)) ∈ r.fullWeights ∧
      (∀ d, (a, d) ∈ r.orders ↔ d = -h ∧ h ≠ 0) :=
  C09_liquid (lsSize_keys fee E leverage price) (lsSize_zero fee E leverage price) hα hh hr ha hna

/-- C09 (reach, whole book), long-only sizer -/
theorem C09_reach_dw (hα : (alpha.map (·.1)).Nodup)
    (hr : pcmCall held uni alpha (dwSize fee E buffer price) = .ok r) :
    ∃ target, dwSize fee E buffer price (fullWeightVector held uni alpha) = .ok target ∧
      ∀ a, applyOrders held r.orders a = (target.lookup a).getD 0 :=
  C09_reach_exact (dwSize_keys fee E buffer price) hα hr

/-- C09 (reach, whole book), long/short sizer -/
theorem C09_reach_ls (hα : (alpha.map (·.1)).Nodup)
    (hr : pcmCall held uni alpha (lsSize fee E leverage price) = .ok r) :
    ∃ target, lsSize fee E leverage price (fullWeightVector held uni alpha) = .ok target ∧
      ∀ a, applyOrders held r.orders a = (target.lookup a).getD 0 :=
  C09_reach_exact (lsSize_keys fee E leverage price) hα hr

end Lawful

/-! ## Non-vacuity

Holdings: long 7 `XOM` (not in the universe, not weighted: must be liquidated) and short 5 `SPY` (in the universe,
not weighted: must be bought back).  Universe `SPY, AGG` (with a duplicate).  Alpha weights `GLD` (outside both the
holdings and the universe) and `AGG`. -/

section Examples

noncomputable local instance instNumOpsQ09 : NumOps ℚ := fieldNumOps ℚ
local instance instLawfulQ09 : LawfulNumOps ℚ := fieldNumOps_lawful ℚ

def exHeld : List (String × Int) := [("XOM", 7), ("SPY", -5)]
def exUni : List String := ["SPY", "AGG", "SPY"]
def exAlpha : List (String × ℚ) := [("GLD", 1), ("AGG", 3)]
def exPrice : String → Option ℚ := fun _ => some 10
/-- a stub sizer that ignores the weights (its answer is not even sorted) -/
def exStub : List (String × ℚ) → Except Err (List (String × Int)) :=
  fun _ => .ok [("SPY", 0), ("GLD", 4), ("AGG", 3), ("XOM", 7)]

theorem exSortDedup : sortDedup ["XOM", "SPY", "SPY", "AGG", "SPY"] = ["AGG", "SPY", "XOM"] :=
  sortDedup_eq_of_forall (by decide +kernel) (by decide +kernel)

/-- the recorded allocation: held/universe assets ascending (zero unless alpha speaks), then alpha-only `GLD` -/
theorem exFw : fullWeightVector exHeld exUni exAlpha = [("AGG", 3), ("SPY", 0), ("XOM", 0), ("GLD", 1)] := by
  unfold fullWeightVector
  rw [show fullAssetList exHeld exUni = ["AGG", "SPY", "XOM"] from exSortDedup]
  decide +kernel

theorem exAlphaNodup : (exAlpha.map (·.1)).Nodup := by decide +kernel
theorem exHeldNodup : (exHeld.map (·.1)).Nodup := by decide +kernel

/-- `pcmCall` with the stub sizer, computed: `XOM` (target = held) gets no order, the short `SPY` is bought back -/
theorem exPcmStub : pcmCall exHeld exUni exAlpha exStub =
    .ok ⟨[("AGG", 3), ("SPY", 0), ("XOM", 0), ("GLD", 1)], [("AGG", 3), ("GLD", 4), ("SPY", 5)]⟩ := by
  refine pcmCall_ok_iff.mpr ⟨_, rfl, ?_⟩
  rw [exFw, rebalanceOrders_of_sorted (sorted := [("AGG", 3), ("GLD", 4), ("SPY", 0), ("XOM", 7)])
    (by decide +kernel) (by decide +kernel)]
  rfl

example := C09_assets exHeld exUni exAlpha exAlphaNodup
example := C09_orders exHeld exUni exAlpha exStub _ _ rfl (by simp) exPcmStub
example := C09_reach_pcm exHeld exUni exAlpha exStub _ _ rfl (by simp) exPcmStub

theorem exTiny : (NumOps.tiny : ℚ) = 1 / 100000000 := fieldNumOps_tiny ℚ

/-- the long-only sizer on the recorded allocation: equity 1000, no buffer, no fees, every price 10;
weights `3, 0, 0, 1` normalise to `3/4, 0, 0, 1/4` -/
theorem exDw : dwSize (.zero) (1000 : ℚ) 0 exPrice [("AGG", 3), ("SPY", 0), ("XOM", 0), ("GLD", 1)] =
    .ok [("AGG", 75), ("GLD", 25), ("SPY", 0), ("XOM", 0)] := by
  have hS : (([("AGG", 3), ("SPY", 0), ("XOM", 0), ("GLD", 1)] : Weights ℚ).map (·.2)).sum = 4 := by decide +kernel
  rw [dwSize_eq, if_pos ⟨by simp, fun _ _ => rfl⟩, hS, sized,
    sortByKey_eq_of_perm_sorted (l' := [("AGG", 3), ("GLD", 1), ("SPY", 0), ("XOM", 0)]) (by decide +kernel) (by decide +kernel)]
  simp only [List.map_cons, List.map_nil, exPrice, Option.getD_some,
    normScale_of_tiny_lt (s := (4 : ℚ)) (by decide +kernel), zero_div, dwQuantity_zero]
  rw [(dwQuantity_eq_iff _ _ _ _ (by decide +kernel) 75).mpr (by decide +kernel),
    (dwQuantity_eq_iff _ _ _ _ (by decide +kernel) 25).mpr (by decide +kernel)]

/-- `pcmCall` with the long-only sizer, computed: orders are target − held for all four assets, ascending;
`XOM` is sold in full (−7), the short `SPY` is bought back in full (+5) -/
theorem exPcmDw : pcmCall exHeld exUni exAlpha (dwSize (.zero) (1000 : ℚ) 0 exPrice) =
    .ok ⟨[("AGG", 3), ("SPY", 0), ("XOM", 0), ("GLD", 1)],
         [("AGG", 75), ("GLD", 25), ("SPY", 5), ("XOM", -7)]⟩ := by
  refine pcmCall_ok_iff.mpr ⟨_, by rw [exFw]; exact exDw, ?_⟩
  rw [exFw, rebalanceOrders_of_sorted (.refl _) (by decide +kernel)]
  rfl

example := C09_orders_dw (.zero) (1000 : ℚ) 0 exPrice exAlphaNodup exPcmDw
example := C09_reach_dw (.zero) (1000 : ℚ) 0 exPrice exAlphaNodup exPcmDw
/-- `XOM` (held 7, no weight) is liquidated: its only order is `−7` -/
example := C09_liquid_dw (.zero) (1000 : ℚ) 0 exPrice exAlphaNodup exHeldNodup exPcmDw
  (a := "XOM") (h := 7) (by simp [exHeld]) (by simp [exAlpha])
/-- the short `SPY` (held −5, no weight) is bought back: its only order is `+5` -/
example := C09_liquid_dw (.zero) (1000 : ℚ) 0 exPrice exAlphaNodup exHeldNodup exPcmDw
  (a := "SPY") (h := -5) (by simp [exHeld]) (by simp [exAlpha])

/-- the long/short sizer on the same allocation: equity 1000, gross leverage 1, no fees, every price 10 -/
theorem exLs : lsSize (.zero) (1000 : ℚ) 1 exPrice [("AGG", 3), ("SPY", 0), ("XOM", 0), ("GLD", 1)] =
    .ok [("AGG", 75), ("GLD", 25), ("SPY", 0), ("XOM", 0)] := by
  have hG : (([("AGG", 3), ("SPY", 0), ("XOM", 0), ("GLD", 1)] : Weights ℚ).map fun x => |x.2|).sum = 4 := by decide +kernel
  rw [lsSize_eq, if_pos (by intro _ _; rfl), hG, sized,
    sortByKey_eq_of_perm_sorted (l' := [("AGG", 3), ("GLD", 1), ("SPY", 0), ("XOM", 0)]) (by decide +kernel) (by decide +kernel)]
  simp only [List.map_cons, List.map_nil, exPrice, Option.getD_some,
    normScale_of_tiny_lt (s := (4 : ℚ)) (by decide +kernel), zero_mul, lsQuantity_zero]
  rw [lsQuantity_eq_of (d := 750) (z := 75)
      ((truncI_eq_iff _ _).mpr (by decide +kernel))
      ((truncI_eq_iff _ _).mpr (by decide +kernel)),
    lsQuantity_eq_of (d := 250) (z := 25)
      ((truncI_eq_iff _ _).mpr (by decide +kernel))
      ((truncI_eq_iff _ _).mpr (by decide +kernel))]

theorem exPcmLs : pcmCall exHeld exUni exAlpha (lsSize (.zero) (1000 : ℚ) 1 exPrice) =
    .ok ⟨[("AGG", 3), ("SPY", 0), ("XOM", 0), ("GLD", 1)],
         [("AGG", 75), ("GLD", 25), ("SPY", 5), ("XOM", -7)]⟩ := by
  refine pcmCall_ok_iff.mpr ⟨_, by rw [exFw]; exact exLs, ?_⟩
  rw [exFw, rebalanceOrders_of_sorted (.refl _) (by decide +kernel)]
  rfl

example := C09_orders_ls (.zero) (1000 : ℚ) 1 exPrice exAlphaNodup exPcmLs
example := C09_reach_ls (.zero) (1000 : ℚ) 1 exPrice exAlphaNodup exPcmLs
example := C09_liquid_ls (.zero) (1000 : ℚ) 1 exPrice exAlphaNodup exHeldNodup exPcmLs
  (a := "XOM") (h := 7) (by simp [exHeld]) (by simp [exAlpha])

end Examples

end Qs
