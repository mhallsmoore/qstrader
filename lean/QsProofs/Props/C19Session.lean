import QsProofs.Lemmas.SessionLifts
import QsProofs.Props.C14
import Mathlib.Data.Rat.Floor

/-!
# C19 (session level) — assets trade only while they belong to the universe, over a whole backtest

Property C19: "With a universe-driven alpha model, an asset receives a target weight, an order or a position only at
rebalances at or after its universe entry time (entry ≤ t, inclusive), and it is included from the first such
rebalance onward; an asset with no entry date is never included."

`Props/C19.lean` proves this for one portfolio-construction call (`C19_pcm_invariant`, `C19_from`).  Here it is an
invariant of `Session.runEvents` for `cfg.uni = .dynamic dates` and `alpha = singleAlpha sig`.

The invariant is `Lift.Good` (`Lemmas/SessionLifts.lean`): at a rebalance the ordered assets are held, universe members
or keys of the alpha model's weights (`Lift.sizerOf_orders_keys`, the fact behind `C19_pcm_invariant`); the broker steps are the
frame lemmas `Lift.update_occ`, `Lift.submitOrder_occ`, `Lift.executeOrders_occ` ("`update` only marks positions and moves
queued orders into positions and the fill log").
-/

namespace Qs
open Qs.Sess Qs.Lift

section
variable {α : Type} [Field α] [LinearOrder α] [IsStrictOrderedRing α] [FloorRing α] [NumOps α] [LawfulNumOps α]

/-- Dynamic universe `dates`, universe-driven alpha model `singleAlpha sig`,
any schedule / sizer / fee model / prices.  Start from a session that stores no position, no pending order, no fill and
no allocation record; run any events in non-decreasing time order; let `s'` be the state the run leaves (at its end
or at the first error).  Then, writing "entered by `t`" for `∃ e, (a, some e) ∈ dates ∧ e ≤ t`:
1. every stored position's asset — in particular every asset of `heldOf s'.broker` — has entered by the time of the
   latest allocation record (the latest rebalance so far), and so has
2. the asset of every pending order (`pendingOf s'.broker`, and the queue of any portfolio);
3. every key of a recorded allocation vector `(t, fw)` has entered by its record time `t`;
4. every fill's asset had entered by a rebalance made at or before the fill time (the one that ordered it, or an
   earlier one);
5. the record times are non-decreasing, so "latest" in 1–2 is also "largest". -/
theorem C19_session_only (cfg : SessionCfg α) (dates : List (String × Option Int))
    (huni : cfg.uni = .dynamic dates) (sig : α) (px : Px α) (sched : List Int) (s : Session α)
    (hpos : ∀ e ∈ s.broker.entries, e.pf.positions = [] ∧ e.queue = []) (hlog : s.broker.fillLog = [])
    (halloc : s.allocations = [])
    (events : List SimEvent) (hsorted : (events.map (·.time)).Pairwise (· ≤ ·)) :
    let s' := (Session.runEvents cfg (singleAlpha sig) px sched s events).1
    (∀ a, (a ∈ (heldOf s'.broker).map (·.1) ∨ ∃ e ∈ s'.broker.entries, ∃ p ∈ e.pf.positions, p.asset = a) →
      ∃ r, s'.allocations.getLast? = some r ∧ ∃ e, (a, some e) ∈ dates ∧ e ≤ r.1) ∧
    (∀ a, (a ∈ (pendingOf s'.broker).map (·.1) ∨ ∃ e ∈ s'.broker.entries, ∃ o ∈ e.queue, o.asset = a) →
      ∃ r, s'.allocations.getLast? = some r ∧ ∃ e, (a, some e) ∈ dates ∧ e ≤ r.1) ∧
    (∀ r ∈ s'.allocations, ∀ k ∈ r.2.map (·.1), ∃ e, (k, some e) ∈ dates ∧ e ≤ r.1) ∧
    (∀ f ∈ s'.fills, ∃ r ∈ s'.allocations, r.1 ≤ f.time ∧ ∃ e, (f.asset, some e) ∈ dates ∧ e ≤ r.1) ∧
    (s'.allocations.map (·.1)).Pairwise (· ≤ ·) := by
  intro s'
  obtain ⟨lo', hg⟩ := good_of_fresh_run sig cfg huni px sched s hpos hlog halloc events hsorted
  refine ⟨?_, ?_, ?_, ?_, hg.sorted⟩
  · rintro a (ha | ⟨e, he, p, hp, rfl⟩)
    · exact hg.occ.held a ha
    · exact hg.occ.pos e he p hp
  · rintro a (ha | ⟨e, he, o, ho, rfl⟩)
    · exact hg.occ.pending a ha
    · exact hg.occ.queue e he o ho
  · intro r hr
    exact (hg.recs r hr).2.1
  · intro f hf
    simp only [Session.fills, List.mem_map] at hf
    obtain ⟨x, hx, rfl⟩ := hf
    exact hg.occ.log x hx

/-- Under the same conditions every allocation record `(t, fw)` made
during the run has, for every asset `a` with an entry date `e ≤ t` (inclusive), the key `a` with the signal as its
weight.  So `a` is weighted at the first rebalance at or after its entry time and at every later one. -/
theorem C19_session_from (cfg : SessionCfg α) (dates : List (String × Option Int))
    (huni : cfg.uni = .dynamic dates) (sig : α) (px : Px α) (sched : List Int) (s : Session α)
    (hpos : ∀ e ∈ s.broker.entries, e.pf.positions = [] ∧ e.queue = []) (hlog : s.broker.fillLog = [])
    (halloc : s.allocations = [])
    (events : List SimEvent) (hsorted : (events.map (·.time)).Pairwise (· ≤ ·)) :
    ∀ r ∈ (Session.runEvents cfg (singleAlpha sig) px sched s events).1.allocations,
      ∀ a e, (a, some e) ∈ dates → e ≤ r.1 → a ∈ r.2.map (·.1) ∧ (a, sig) ∈ r.2 := by
  obtain ⟨lo', hg⟩ := good_of_fresh_run sig cfg huni px sched s hpos hlog halloc events hsorted
  intro r hr a e hae het
  have := (hg.recs r hr).2.2 a ⟨e, hae, het⟩
  exact ⟨List.mem_map.mpr ⟨(a, sig), this, rfl⟩, this⟩

/-- An asset whose dictionary entries (if any) carry no date is never held, never
queued, never a key of a recorded allocation, never filled. -/
theorem C19_session_never (cfg : SessionCfg α) (dates : List (String × Option Int))
    (huni : cfg.uni = .dynamic dates) (sig : α) (px : Px α) (sched : List Int) (s : Session α)
    (hpos : ∀ e ∈ s.broker.entries, e.pf.positions = [] ∧ e.queue = []) (hlog : s.broker.fillLog = [])
    (halloc : s.allocations = [])
    (events : List SimEvent) (hsorted : (events.map (·.time)).Pairwise (· ≤ ·))
    (a : String) (hnever : ∀ e, (a, some e) ∉ dates) :
    let s' := (Session.runEvents cfg (singleAlpha sig) px sched s events).1
    a ∉ (heldOf s'.broker).map (·.1) ∧ a ∉ (pendingOf s'.broker).map (·.1) ∧
    (∀ r ∈ s'.allocations, a ∉ r.2.map (·.1)) ∧ (∀ f ∈ s'.fills, f.asset ≠ a) := by
  intro s'
  obtain ⟨h1, h2, h3, h4, _⟩ := C19_session_only cfg dates huni sig px sched s hpos hlog halloc events hsorted
  refine ⟨?_, ?_, ?_, ?_⟩
  · intro ha
    obtain ⟨_, _, e, he, _⟩ := h1 a (Or.inl ha)
    exact hnever e he
  · intro ha
    obtain ⟨_, _, e, he, _⟩ := h2 a (Or.inl ha)
    exact hnever e he
  · intro r hr ha
    obtain ⟨e, he, _⟩ := h3 r hr a ha
    exact hnever e he
  · rintro f hf rfl
    obtain ⟨_, _, _, e, he, _⟩ := h4 f hf
    exact hnever e he

/-- `Session.init`, then any event list `evs` in non-decreasing time order (the
session's own clock, or a prefix of it): the conclusions of `C19_session_only` / `C19_session_from`; and when the run returns
normally, the record times are exactly the event times that are scheduled instants past the burn-in (C14), so
"a rebalance" and "an allocation record" are the same thing. -/
theorem C19_session (cfg : SessionCfg α) (dates : List (String × Option Int))
    (huni : cfg.uni = .dynamic dates) (sig : α) (px : Px α)
    (s0 : Session α) (events : List SimEvent) (sched : List Int)
    (hinit : Session.init cfg = .ok (s0, events, sched))
    (evs : List SimEvent) (hsorted : (evs.map (·.time)).Pairwise (· ≤ ·)) :
    let s' := (Session.runEvents cfg (singleAlpha sig) px sched s0 evs).1
    (∀ a ∈ (heldOf s'.broker).map (·.1),
      ∃ r, s'.allocations.getLast? = some r ∧ ∃ e, (a, some e) ∈ dates ∧ e ≤ r.1) ∧
    (∀ a ∈ (pendingOf s'.broker).map (·.1),
      ∃ r, s'.allocations.getLast? = some r ∧ ∃ e, (a, some e) ∈ dates ∧ e ≤ r.1) ∧
    (∀ r ∈ s'.allocations, ∀ k ∈ r.2.map (·.1), ∃ e, (k, some e) ∈ dates ∧ e ≤ r.1) ∧
    (∀ f ∈ s'.fills, ∃ r ∈ s'.allocations, r.1 ≤ f.time ∧ ∃ e, (f.asset, some e) ∈ dates ∧ e ≤ r.1) ∧
    (∀ r ∈ s'.allocations, ∀ a e, (a, some e) ∈ dates → e ≤ r.1 → a ∈ r.2.map (·.1) ∧ (a, sig) ∈ r.2) ∧
    ((Session.runEvents cfg (singleAlpha sig) px sched s0 evs).2 = none →
      s'.allocations.map (·.1) = (evs.map (·.time)).filter (fun t => burnOk cfg t && sched.contains t)) := by
  intro s'
  obtain ⟨hpos, hf, ha, _, _, _⟩ := init_fresh hinit
  obtain ⟨h1, h2, h3, h4, _⟩ := C19_session_only cfg dates huni sig px sched s0 hpos hf ha evs hsorted
  refine ⟨fun a h => h1 a (Or.inl h), fun a h => h2 a (Or.inl h), h3, h4,
    C19_session_from cfg dates huni sig px sched s0 hpos hf ha evs hsorted, ?_⟩
  intro hnone
  have := C14.C14_pcm cfg (singleAlpha sig) px sched s0 s' evs (Prod.ext rfl hnone)
  rw [ha] at this
  exact this

end

/-! ## Non-vacuity at `α := ℚ` (`fieldNumOps ℚ`)

Monday 2021-01-04 00:00 … Wednesday 2021-01-06 23:59:59, daily rebalance (at every close), long-only without cash
buffer, no fees, cash 1000.  Dynamic universe: `A` enters on Tuesday 00:00, `B` enters after the end of the backtest,
`C` has no entry date.  `A` trades at 9 at every open and at 10 otherwise.
Monday's close: the universe is empty — an empty allocation record, no order.  Tuesday's close (the first rebalance at
or after `A`'s entry): `A` gets weight 1 and an order of 100; it fills on Wednesday's open, where the example stops
(the kernel cannot unfold `List.mergeSort` on the two-element list of Wednesday's close).  `B` and `C` never appear. -/

section nonvacuity

noncomputable local instance (priority := high) ratOps19s : NumOps ℚ := fieldNumOps ℚ
local instance (priority := high) ratLawful19s : LawfulNumOps ℚ := fieldNumOps_lawful ℚ

def exDates19s : List (String × Option Int) :=
  [("A", some (18632 * 86400)), ("B", some (18640 * 86400)), ("C", none)]

def exPx19s : Px ℚ := fun t a => if a = "A" then (if t % 86400 = 52200 then some 9 else some 10) else none

noncomputable def exCfg19s : SessionCfg ℚ :=
  { start := 18631 * 86400, end_ := 18633 * 86400 + 86399, rebalance := .daily, longOnly := true, param := 0,
    fee := .zero, initialCash := 1000, uni := .dynamic exDates19s, nan := 0 }

def exEvents19s : List SimEvent :=
  [⟨18631 * 86400 + 52200, .marketOpen⟩, ⟨18631 * 86400 + 75600, .marketClose⟩,
   ⟨18632 * 86400 + 52200, .marketOpen⟩, ⟨18632 * 86400 + 75600, .marketClose⟩,
   ⟨18633 * 86400 + 52200, .marketOpen⟩, ⟨18633 * 86400 + 75600, .marketClose⟩]

theorem exInit19s : ∃ s0 sched, Session.init exCfg19s = .ok (s0, exEvents19s, sched) := by
  obtain ⟨⟨s0, evs, sc⟩, hi, hp⟩ := ok_of_test (x := Session.init exCfg19s) (fun r => decide (r.2.1 = exEvents19s))
    (by decide +kernel)
  exact ⟨s0, sc, of_decide_eq_true hp ▸ hi⟩

/-- the clock up to Wednesday's open -/
def exEvs19s : List SimEvent := exEvents19s.take 5

/-- the example run over `exEvs19s` from the constructed session -/
noncomputable def exAfter19s : Option (Session ℚ × Option (Int × Err)) :=
  (Session.init exCfg19s).toOption.map fun r =>
    Session.runEvents exCfg19s (singleAlpha 1) exPx19s r.2.2 r.1 exEvs19s

/-- the observables of the example run, evaluated by the kernel -/
theorem exRun19s_ok : exAfter19s.map (fun r => r.2.isNone) = some true := by decide +kernel
theorem exRun19s_alloc : exAfter19s.map (fun r => r.1.allocations) =
    some [(18631 * 86400 + 75600, []), (18632 * 86400 + 75600, [("A", 1)])] := by
  decide +kernel
theorem exRun19s_held : exAfter19s.map (fun r => heldOf r.1.broker) = some [("A", 100)] := by decide +kernel
theorem exRun19s_fills : exAfter19s.map (fun r => r.1.fills.map fun f => (f.time, f.asset, f.qty)) =
    some [(18633 * 86400 + 52200, "A", 100)] := by
  decide +kernel

/-- all hypotheses of `C19_session` hold on the example (construction by `Session.init`, the events are in time
order), and its conclusions are about a non-trivial final state: one held asset, two records (the first one empty:
`A` had not entered on Monday), one fill -/
example : ∃ s0 sched, Session.init exCfg19s = .ok (s0, exEvents19s, sched) ∧
    (exEvs19s.map (·.time)).Pairwise (· ≤ ·) ∧
    let s' := (Session.runEvents exCfg19s (singleAlpha 1) exPx19s sched s0 exEvs19s).1
    heldOf s'.broker = [("A", 100)] ∧ s'.allocations.length = 2 ∧ s'.fills.length = 1 ∧
    (∀ f ∈ s'.fills, ∃ r ∈ s'.allocations, r.1 ≤ f.time ∧ ∃ e, (f.asset, some e) ∈ exDates19s ∧ e ≤ r.1) ∧
    (∀ r ∈ s'.allocations, "B" ∉ r.2.map (·.1) ∧ "C" ∉ r.2.map (·.1)) := by
  obtain ⟨s0, sched, h0⟩ := exInit19s
  have hal := exRun19s_alloc
  have hheld := exRun19s_held
  have hfills := exRun19s_fills
  simp only [exAfter19s, h0, Except.toOption, Option.map_some, Option.some.injEq] at hal hheld hfills
  have hs : (exEvs19s.map (·.time)).Pairwise (· ≤ ·) := by decide
  obtain ⟨_, _, _, h4, _, _⟩ := C19_session exCfg19s exDates19s rfl 1 exPx19s s0 exEvents19s sched h0 exEvs19s hs
  refine ⟨s0, sched, h0, hs, hheld, by rw [hal]; rfl, ?_, h4, by rw [hal]; decide⟩
  simpa using congrArg List.length hfills

end nonvacuity

end Qs
