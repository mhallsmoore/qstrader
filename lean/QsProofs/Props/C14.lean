import QsProofs.Lemmas.Session
import QsProofs.Props.C12

/-!
# C14 — A session trades only at scheduled rebalances after burn-in; equity is daily

All theorems are about the real model (`Qs.Session.step`, `Qs.Session.runEvents`, `Qs.rebalanceAt`,
`Qs.targetAllocationTable`, `Qs.Session.init`) for EVERY configuration, alpha model, market view, schedule,
event list and starting state, over EVERY carrier `α` (no numeric law is used: the facts are structural).
-/

set_option linter.unusedSectionVars false

namespace Qs.C14
open Qs.Sess Qs.Cal

section
variable {α : Type} [Add α] [Sub α] [Mul α] [Div α] [Neg α] [NumOps α]

/-- `rebalanceAt` records exactly one allocation, stamped `t`, whether or not sizing or
execution then raises — so the allocation records count the portfolio-construction calls. -/
theorem C14_pcm_call (cfg : SessionCfg α) (alpha : Alpha α) (px : Px α) (t : Int) (s : Session α) :
    ∃ w, (rebalanceAt cfg alpha px t s).1.allocations = s.allocations ++ [(t, w)] :=
  ⟨_, (rebalanceAt_frame cfg alpha px t s).2.1⟩

/-- In a run that returns normally, the recorded allocation instants are exactly the event times that
are scheduled rebalance instants not earlier than the burn-in (all scheduled ones when there is no burn-in), in
event order, once each — and nothing else. -/
theorem C14_pcm (cfg : SessionCfg α) (alpha : Alpha α) (px : Px α) (sched : List Int) (s s' : Session α)
    (events : List SimEvent) (h : Session.runEvents cfg alpha px sched s events = (s', none)) :
    s'.allocations.map (·.1) =
      s.allocations.map (·.1) ++ (events.map (·.time)).filter (fun t => burnOk cfg t && sched.contains t) := by
  rw [isReb_fun, runEvents_ok_fold (fun s => s.allocations.map (·.1))
    (fun ev => if isReb cfg sched ev.time then [ev.time] else []) cfg alpha px sched ?_ events s s' h,
    flatMap_ite (fun ev : SimEvent => isReb cfg sched ev.time) (·.time), List.filter_map]
  · rfl
  · intro s ev s' h
    obtain ⟨w, hw⟩ := (step_ok_logs h).1
    rw [hw, List.map_append]; split <;> rfl

/-- If the run raises at `te`, then `te` is the time of an event `ev`, every
rebalance instant among the earlier events was recorded, and `ev`'s own instant was recorded iff the step got as
far as the portfolio construction (which requires it to be a scheduled instant past the burn-in). -/
theorem C14_pcm_err (cfg : SessionCfg α) (alpha : Alpha α) (px : Px α) (sched : List Int) (s s' : Session α)
    (events : List SimEvent) (te : Int) (e : Err)
    (h : Session.runEvents cfg alpha px sched s events = (s', some (te, e))) :
    ∃ pre ev post, events = pre ++ ev :: post ∧ te = ev.time ∧
      (s'.allocations.map (·.1) =
          s.allocations.map (·.1) ++ (pre.map (·.time)).filter (fun t => burnOk cfg t && sched.contains t) ∨
       ((burnOk cfg ev.time && sched.contains ev.time) = true ∧
        s'.allocations.map (·.1) =
          s.allocations.map (·.1) ++
            ((pre ++ [ev]).map (·.time)).filter (fun t => burnOk cfg t && sched.contains t))) := by
  obtain ⟨pre, ev, post, sm, h1, h2, h3, h4⟩ := runEvents_err_split cfg alpha px sched events s s' te e h
  have hpre : sm.allocations.map (·.1) = s.allocations.map (·.1) ++ (pre.map (·.time)).filter (isReb cfg sched) :=
    C14_pcm cfg alpha px sched s sm pre h3
  have a := step_alloc_any cfg alpha px sched sm ev
  rw [h4] at a
  refine ⟨pre, ev, post, h1, h2, ?_⟩
  rw [isReb_fun, isReb_def]
  rcases a with a | ⟨hr, w, a⟩
  · exact Or.inl (by rw [a, hpre])
  · refine Or.inr ⟨hr, ?_⟩
    rw [a, List.map_append, hpre, List.map_append, List.filter_append, List.append_assoc]
    simp [hr]

/-- The recorded instants are a prefix of the scheduled-and-past-burn-in
event times; each is an event time that is a scheduled instant past the burn-in, and (events sorted by time) is
not later than the error time. -/
theorem C14_pcm_err_prefix (cfg : SessionCfg α) (alpha : Alpha α) (px : Px α) (sched : List Int)
    (s s' : Session α) (events : List SimEvent) (te : Int) (e : Err)
    (h : Session.runEvents cfg alpha px sched s events = (s', some (te, e))) :
    ∃ l, s'.allocations.map (·.1) = s.allocations.map (·.1) ++ l ∧
      l <+: (events.map (·.time)).filter (fun t => burnOk cfg t && sched.contains t) ∧
      (∀ t ∈ l, (burnOk cfg t && sched.contains t) = true ∧ ∃ ev ∈ events, t = ev.time) ∧
      ((events.map (·.time)).Pairwise (· < ·) → ∀ t ∈ l, t ≤ te) := by
  obtain ⟨pre, ev, post, h1, h2, h3⟩ := C14_pcm_err cfg alpha px sched s s' events te e h
  -- in both cases the recorded instants are those of a prefix `part` of the events, none later than `ev`
  obtain ⟨part, rest, hev, hin, hl⟩ : ∃ part rest, events = part ++ rest ∧ (∀ x ∈ part, x ∈ pre ∨ x = ev) ∧
      s'.allocations.map (·.1) = s.allocations.map (·.1) ++
        (part.map (·.time)).filter (fun t => burnOk cfg t && sched.contains t) := by
    rcases h3 with h3 | ⟨_, h3⟩
    · exact ⟨pre, ev :: post, h1, fun x hx => Or.inl hx, h3⟩
    · exact ⟨pre ++ [ev], post, by rw [h1, List.append_assoc]; rfl,
        fun x hx => (List.mem_append.1 hx).imp id List.mem_singleton.1, h3⟩
  refine ⟨_, hl, ?_, fun t ht => ?_, fun hs t ht => ?_⟩
  · rw [hev, List.map_append, List.filter_append]
    exact List.prefix_append _ _
  · obtain ⟨hm, hp⟩ := List.mem_filter.1 ht
    obtain ⟨x, hx, rfl⟩ := List.mem_map.1 hm
    exact ⟨hp, x, hev ▸ List.mem_append_left _ hx, rfl⟩
  · obtain ⟨x, hx, rfl⟩ := List.mem_map.1 (List.mem_filter.1 ht).1
    rcases hin x hx with hx | rfl
    · rw [h1, List.map_append, List.map_cons, List.pairwise_append] at hs
      exact h2 ▸ Int.le_of_lt (hs.2.2 _ (List.mem_map_of_mem hx) _ List.mem_cons_self)
    · exact h2 ▸ Int.le_refl _

/-- For a market-close event past the burn-in, a step that returns normally appends
exactly the point `(ev.time, account equity of the state it leaves)`; a step that raises appends nothing. -/
theorem C14_equity_step (cfg : SessionCfg α) (alpha : Alpha α) (px : Px α) (sched : List Int) (s : Session α)
    (ev : SimEvent) (hc : ev.kind = .marketClose) (hb : burnOk cfg ev.time = true) :
    ((s.step cfg alpha px sched ev).2 = none →
      (s.step cfg alpha px sched ev).1.equity =
        s.equity ++ [(ev.time, ((s.step cfg alpha px sched ev).1.broker.accountTotalEquity).2)]) ∧
    ((s.step cfg alpha px sched ev).2 ≠ none → (s.step cfg alpha px sched ev).1.equity = s.equity) := by
  refine ⟨fun hn => ?_, step_err_equity cfg alpha px sched s ev⟩
  have := (step_ok_logs (Prod.ext rfl hn : s.step cfg alpha px sched ev = (_, none))).2
  rwa [isEq_iff.2 ⟨hc, hb⟩, if_pos rfl] at this

/-- Any other event — not a market close, or before the burn-in — leaves
the equity curve alone. -/
theorem C14_equity_step_other (cfg : SessionCfg α) (alpha : Alpha α) (px : Px α) (sched : List Int)
    (s : Session α) (ev : SimEvent) (hne : ¬ (ev.kind = .marketClose ∧ burnOk cfg ev.time = true)) :
    (s.step cfg alpha px sched ev).1.equity = s.equity := by
  have hq : isEq cfg ev = false := Bool.eq_false_iff.2 fun h => hne (isEq_iff.1 h)
  by_cases hn : (s.step cfg alpha px sched ev).2 = none
  · have := (step_ok_logs (Prod.ext rfl hn : s.step cfg alpha px sched ev = (_, none))).2
    rwa [hq, if_neg Bool.false_ne_true, List.append_nil] at this
  · exact step_err_equity cfg alpha px sched s ev hn

/-- In a run that returns normally the equity curve gains exactly one point per market-close
event whose time is not earlier than the burn-in, in event order. -/
theorem C14_equity (cfg : SessionCfg α) (alpha : Alpha α) (px : Px α) (sched : List Int) (s s' : Session α)
    (events : List SimEvent) (h : Session.runEvents cfg alpha px sched s events = (s', none)) :
    s'.equity.map (·.1) =
      s.equity.map (·.1) ++
        (events.filter (fun ev => ev.kind = .marketClose && burnOk cfg ev.time)).map (·.time) := by
  rw [isEq_fun, runEvents_ok_fold (fun s => s.equity.map (·.1))
    (fun ev => if isEq cfg ev then [ev.time] else []) cfg alpha px sched ?_ events s s' h,
    flatMap_ite (isEq cfg) (·.time)]
  intro s ev s' h
  rw [(step_ok_logs h).2, List.map_append]; split <;> rfl

/-- Each appended point is `(ev.time, v)` where `ev` is a market-close event past the
burn-in and `v` is the account equity (`accountTotalEquity`) of the session state right after `ev` was processed
(`sm` is the state reached by the events before `ev`). -/
theorem C14_equity_values (cfg : SessionCfg α) (alpha : Alpha α) (px : Px α) (sched : List Int)
    (s s' : Session α) (events : List SimEvent)
    (h : Session.runEvents cfg alpha px sched s events = (s', none)) :
    ∃ ee, s'.equity = s.equity ++ ee ∧
      ∀ p ∈ ee, ∃ pre ev post sm, events = pre ++ ev :: post ∧
        ev.kind = .marketClose ∧ burnOk cfg ev.time = true ∧
        Session.runEvents cfg alpha px sched s pre = (sm, none) ∧
        (sm.step cfg alpha px sched ev).2 = none ∧
        p = (ev.time, ((sm.step cfg alpha px sched ev).1.broker.accountTotalEquity).2) := by
  induction events generalizing s with
  | nil => cases runEvents_nil_ok.1 h; exact ⟨[], (List.append_nil _).symm, fun _ hp => nomatch hp⟩
  | cons ev rest ih =>
    obtain ⟨s1, hst, hrest⟩ := runEvents_cons_ok.1 h
    obtain ⟨ee, hee, hp⟩ := ih s1 hrest
    refine ⟨_, by rw [hee, (step_ok_logs hst).2, List.append_assoc], fun p hp' => ?_⟩
    rcases List.mem_append.1 hp' with hp' | hp'
    · -- the point of `ev` itself
      by_cases hq : isEq cfg ev = true
      · rw [if_pos hq, List.mem_singleton] at hp'
        rw [isEq_iff] at hq
        exact ⟨[], ev, rest, s, rfl, hq.1, hq.2, rfl, by rw [hst], by rw [hst]; exact hp'⟩
      · rw [if_neg hq] at hp'; cases hp'
    · obtain ⟨pre, ev', post, sm, e1, e2, e3, e4, e5, e6⟩ := hp p hp'
      exact ⟨ev :: pre, ev', post, sm, by rw [e1]; rfl, e2, e3, runEvents_cons_ok.2 ⟨s1, hst, e4⟩, e5, e6⟩

/-- With the events of `simEvents start end false false` (`start ≤ end`
is forced by `simEvents` succeeding; the end's time of day is not before the start's), the new equity times are
the 21:00 closes `d * 86400 + CLOSE` of exactly the Monday–Friday dates `d` of `[dayOf start, dayOf end]` whose
close is not earlier than the burn-in, in date order. -/
theorem C14_equity_clock (cfg : SessionCfg α) (alpha : Alpha α) (px : Px α) (sched : List Int)
    (start end_ : Int) (events : List SimEvent) (s s' : Session α)
    (hsim : simEvents start end_ false false = .ok events) (htod : todOf start ≤ todOf end_)
    (h : Session.runEvents cfg alpha px sched s events = (s', none)) :
    s'.equity.map (·.1) =
      s.equity.map (·.1) ++
        (((daysFrom (dayOf start) (dayOf end_ + 1 - dayOf start).toNat).filter isBDay).filter
          (fun d => burnOk cfg (d * 86400 + CLOSE))).map (fun d => d * 86400 + CLOSE) := by
  rw [C14_equity cfg alpha px sched s s' events h]
  rw [C12.C12_events start end_ false false (simEvents_ok_iff.1 hsim).1 htod] at hsim
  injection hsim with hsim
  rw [← hsim, isEq_fun, filter_isEq_templates]

/-- Same setting: the new equity times are `d * 86400 + CLOSE` for
a strictly increasing list of dates `d`, which are exactly the dates with `dayOf start ≤ d ≤ dayOf end`,
Monday–Friday, whose 21:00 close is not earlier than the burn-in. -/
theorem C14_equity_days (cfg : SessionCfg α) (alpha : Alpha α) (px : Px α) (sched : List Int)
    (start end_ : Int) (events : List SimEvent) (s s' : Session α)
    (hsim : simEvents start end_ false false = .ok events) (htod : todOf start ≤ todOf end_)
    (h : Session.runEvents cfg alpha px sched s events = (s', none)) :
    ∃ days : List Int,
      s'.equity.map (·.1) = s.equity.map (·.1) ++ days.map (fun d => d * 86400 + CLOSE) ∧
      days.Pairwise (· < ·) ∧
      ∀ d, d ∈ days ↔ dayOf start ≤ d ∧ d ≤ dayOf end_ ∧ weekday d ≤ 4 ∧ burnOk cfg (d * 86400 + CLOSE) = true := by
  refine ⟨_, C14_equity_clock cfg alpha px sched start end_ events s s' hsim htod h, ?_, ?_⟩
  · exact ((daysFrom_pairwise _ _).filter _).filter _
  · intro d
    rw [List.mem_filter, ← C12.C12_bdayRange start end_ htod, C12.C12_mem_bdayRange start end_ d htod]
    simp only [and_assoc]

/-- Every fill a run adds (whether or not it raises) carries the time of one of its events, and
that event lies inside exchange hours. -/
theorem C14_fills (cfg : SessionCfg α) (alpha : Alpha α) (px : Px α) (sched : List Int) (s : Session α)
    (events : List SimEvent) :
    ∃ ef, (Session.runEvents cfg alpha px sched s events).1.fills = s.fills ++ ef ∧
      ∀ f ∈ ef, ∃ ev ∈ events, f.time = ev.time ∧ isOpen ev.time = true :=
  fills_of_ext (Q := fun t => ∃ ev ∈ events, t = ev.time ∧ isOpen ev.time = true)
    (runEvents_fills cfg alpha px sched events s)

/-- A 21:00 close is never inside exchange hours; the 14:30 open of a Monday–Friday date is. -/
theorem C14_hours (d : Int) :
    isOpen (d * 86400 + CLOSE) = false ∧ (isBDay d = true → isOpen (d * 86400 + OPEN) = true) :=
  ⟨isOpen_close d, isOpen_open d⟩

/-- With the events of `simEvents start end false false`, every fill of
the run is stamped with the time of a market-open event: 14:30:00 on a Monday–Friday date. -/
theorem C14_fills_clock (cfg : SessionCfg α) (alpha : Alpha α) (px : Px α) (sched : List Int) (s : Session α)
    (start end_ : Int) (events : List SimEvent) (hsim : simEvents start end_ false false = .ok events) :
    ∃ ef, (Session.runEvents cfg alpha px sched s events).1.fills = s.fills ++ ef ∧
      ∀ f ∈ ef, ∃ ev ∈ events, f.time = ev.time ∧ ev.kind = .marketOpen ∧ todOf f.time = OPEN ∧
        weekday (dayOf f.time) ≤ 4 := by
  obtain ⟨ef, f1, f2⟩ := C14_fills cfg alpha px sched s events
  refine ⟨ef, f1, fun f hf => ?_⟩
  obtain ⟨ev, hm, ht, ho⟩ := f2 f hf
  have hk := (open_of_simEvents_ff hsim hm).1 ho
  obtain ⟨d, -, -, hd, rfl | rfl⟩ := mem_clock_ff hsim hm
  · have ht' : f.time = d * 86400 + OPEN := ht
    refine ⟨_, hm, ht, rfl, ?_, ?_⟩
    · rw [ht']; exact todOf_stamp true d
    · rw [ht', show dayOf (d * 86400 + OPEN) = d from dayOf_stamp true d]
      exact of_decide_eq_true hd
  · cases hk

/-- Started with no pending order, a run over events none of
which is a scheduled instant past the burn-in adds no fill, records no allocation and leaves no pending order —
also when it raises. -/
theorem C14_fills_idle (cfg : SessionCfg α) (alpha : Alpha α) (px : Px α) (sched : List Int) (s : Session α)
    (pre : List SimEvent) (hq : ∀ e ∈ s.broker.entries, e.queue = [])
    (hn : ∀ ev ∈ pre, (burnOk cfg ev.time && sched.contains ev.time) = false) :
    (Session.runEvents cfg alpha px sched s pre).1.fills = s.fills ∧
    (Session.runEvents cfg alpha px sched s pre).1.allocations = s.allocations ∧
    ∀ e ∈ (Session.runEvents cfg alpha px sched s pre).1.broker.entries, e.queue = [] := by
  have h := runEvents_inv (I := fun s' => s'.broker.fillLog = s.broker.fillLog ∧ QueuesEmpty s'.broker ∧
      s'.allocations = s.allocations) cfg alpha px sched s pre
    (fun s1 ev hev ⟨h1, h2, h3⟩ => by
      obtain ⟨g1, g2, g3⟩ := step_idle cfg alpha px sched s1 ev h2 (hn ev hev)
      exact ⟨g1.trans h1, g2, g3.trans h3⟩)
    ⟨rfl, hq, rfl⟩
  exact ⟨by simp only [Session.fills, h.1], h.2.2, h.2.1⟩

/-- Over events sorted by time, started with no
pending order: every fill of the run is dated at or after the time of an event that is a scheduled rebalance
instant past the burn-in — in particular at or after the first one. -/
theorem C14_fills_after_first (cfg : SessionCfg α) (alpha : Alpha α) (px : Px α) (sched : List Int)
    (s : Session α) (events : List SimEvent) (hq : ∀ e ∈ s.broker.entries, e.queue = [])
    (hs : (events.map (·.time)).Pairwise (· < ·)) :
    ∃ ef, (Session.runEvents cfg alpha px sched s events).1.fills = s.fills ++ ef ∧
      ∀ f ∈ ef, ∃ ev0 ∈ events, (burnOk cfg ev0.time && sched.contains ev0.time) = true ∧ ev0.time ≤ f.time :=
  fills_of_ext (Q := fun t => ∃ ev0 ∈ events, isReb cfg sched ev0.time = true ∧ ev0.time ≤ t)
    (runEvents_fills_after_reb cfg alpha px sched events s hq (hs.imp Int.le_of_lt))

/-- the burn-in date filter of `get_target_allocations` -/
def pastBurnDate (cfg : SessionCfg α) (d : Int) : Bool :=
  match cfg.burnIn with
  | none => true
  | some b => decide (dayOf b ≤ d)

/-- The table has one row per equity point, dated with the point's date, restricted to
dates on or after the burn-in date when a burn-in is given — in equity order. -/
theorem C14_table_dates (cfg : SessionCfg α) (s : Session α) :
    (targetAllocationTable cfg s).map (·.1) =
      (s.equity.map (fun p => dayOf p.1)).filter (pastBurnDate cfg) := by
  unfold targetAllocationTable pastBurnDate
  cases cfg.burnIn with
  | none => simp [List.map_map, Function.comp_def]
  | some b =>
    simp only [List.filter_map, List.map_map]
    rfl

/-- The row of date `d` carries the weights of the LAST allocation record dated on or
before `d` (`none` if there is none). -/
theorem C14_table_row (cfg : SessionCfg α) (s : Session α) (row : Int × Option (List (String × α)))
    (hrow : row ∈ targetAllocationTable cfg s) :
    (∃ p ∈ s.equity, row.1 = dayOf p.1) ∧ pastBurnDate cfg row.1 = true ∧
    row.2 = ((s.allocations.filter (fun x => decide (dayOf x.1 ≤ row.1))).getLast?).map (·.2) := by
  unfold targetAllocationTable at hrow
  unfold pastBurnDate
  cases hb : cfg.burnIn with
  | none =>
    rw [hb] at hrow
    simp only [List.mem_map] at hrow
    obtain ⟨p, hp, rfl⟩ := hrow
    exact ⟨⟨p, hp, rfl⟩, rfl, rfl⟩
  | some b =>
    rw [hb] at hrow
    simp only [List.mem_filter, List.mem_map] at hrow
    obtain ⟨⟨p, hp, rfl⟩, hd⟩ := hrow
    exact ⟨⟨p, hp, rfl⟩, hd, rfl⟩

/-- The row of date `d` is `some w` iff `(ta, w)` is the last allocation record with
`dayOf ta ≤ d`: every later record is dated after `d`. -/
theorem C14_table_some (cfg : SessionCfg α) (s : Session α) (row : Int × Option (List (String × α)))
    (hrow : row ∈ targetAllocationTable cfg s) (w : List (String × α)) :
    row.2 = some w ↔
      ∃ pre ta post, s.allocations = pre ++ (ta, w) :: post ∧ dayOf ta ≤ row.1 ∧
        ∀ x ∈ post, row.1 < dayOf x.1 := by
  rw [(C14_table_row cfg s row hrow).2.2, Option.map_eq_some_iff]
  constructor
  · rintro ⟨⟨ta, w'⟩, hx, rfl⟩
    obtain ⟨pre, post, h1, h2, h3⟩ := (getLast?_filter_eq_some _ _ _).1 hx
    refine ⟨pre, ta, post, h1, by simpa using h2, fun x hx => ?_⟩
    have := h3 x hx
    simp only [decide_eq_false_iff_not] at this
    omega
  · rintro ⟨pre, ta, post, h1, h2, h3⟩
    refine ⟨(ta, w), (getLast?_filter_eq_some _ _ _).2 ⟨pre, post, h1, by simpa using h2, fun x hx => ?_⟩, rfl⟩
    have := h3 x hx
    simp only [decide_eq_false_iff_not]
    omega

/-- The row of date `d` is empty iff no allocation record is dated on or before `d`. -/
theorem C14_table_none (cfg : SessionCfg α) (s : Session α) (row : Int × Option (List (String × α)))
    (hrow : row ∈ targetAllocationTable cfg s) :
    row.2 = none ↔ ∀ x ∈ s.allocations, row.1 < dayOf x.1 := by
  rw [(C14_table_row cfg s row hrow).2.2, Option.map_eq_none_iff, getLast?_filter_eq_none]
  constructor
  · intro h x hx
    have := h x hx
    simp only [decide_eq_false_iff_not] at this
    omega
  · intro h x hx
    have := h x hx
    simp only [decide_eq_false_iff_not]
    omega

/-- an instant not earlier than the burn-in lies on a date not earlier than the burn-in date -/
theorem pastBurnDate_of_burnOk (cfg : SessionCfg α) (t : Int) (h : burnOk cfg t = true) :
    pastBurnDate cfg (dayOf t) = true := by
  unfold burnOk at h
  unfold pastBurnDate
  cases hb : cfg.burnIn with
  | none => rfl
  | some b =>
    rw [hb] at h
    simp only [decide_eq_true_eq] at h ⊢
    unfold dayOf; omega

/-- After a run that returns normally from a state whose equity points are all
past the burn-in (e.g. a fresh session), the burn-in date filter removes nothing: the table has exactly one row
per equity point, dated with that point's date — the dates of the market-close events past the burn-in. -/
theorem C14_table_run (cfg : SessionCfg α) (alpha : Alpha α) (px : Px α) (sched : List Int) (s s' : Session α)
    (events : List SimEvent) (hs : ∀ p ∈ s.equity, burnOk cfg p.1 = true)
    (h : Session.runEvents cfg alpha px sched s events = (s', none)) :
    (targetAllocationTable cfg s').map (·.1) = s'.equity.map (fun p => dayOf p.1) ∧
    (targetAllocationTable cfg s').map (·.1) =
      s.equity.map (fun p => dayOf p.1) ++
        (events.filter (fun ev => ev.kind = .marketClose && burnOk cfg ev.time)).map (fun ev => dayOf ev.time) := by
  have he := C14_equity cfg alpha px sched s s' events h
  have hall : ∀ t ∈ s'.equity.map (·.1), burnOk cfg t = true := by
    simp only [he, List.mem_append, List.mem_map, List.mem_filter, Bool.and_eq_true]
    rintro t (⟨p, hp, rfl⟩ | ⟨ev, ⟨_, _, hb⟩, rfl⟩)
    exacts [hs p hp, hb]
  have h1 : (targetAllocationTable cfg s').map (·.1) = s'.equity.map (fun p => dayOf p.1) := by
    rw [C14_table_dates, List.filter_eq_self]
    rintro d hd
    obtain ⟨p, hp, rfl⟩ := List.mem_map.1 hd
    exact pastBurnDate_of_burnOk cfg p.1 (hall p.1 (List.mem_map.2 ⟨p, hp, rfl⟩))
  refine ⟨h1, ?_⟩
  rw [h1, show s'.equity.map (fun p => dayOf p.1) = (s'.equity.map (·.1)).map dayOf by rw [List.map_map]; rfl, he,
    List.map_append, List.map_map, List.map_map]
  rfl

/-- For a session constructed by `Session.init cfg` and run to the end
without error (the end's time of day not before the start's): portfolio construction ran at exactly the event
times that are scheduled instants past the burn-in; there is exactly one equity point per business day whose
21:00 close is past the burn-in, and one table row per equity point; every fill is stamped 14:30 on a business
day, at or after the first rebalance instant. -/
theorem C14_session (cfg : SessionCfg α) (alpha : Alpha α) (px : Px α) (s0 s' : Session α)
    (events : List SimEvent) (sched : List Int) (hinit : Session.init cfg = .ok (s0, events, sched))
    (htod : todOf cfg.start ≤ todOf cfg.end_)
    (h : Session.runEvents cfg alpha px sched s0 events = (s', none)) :
    s'.allocations.map (·.1) = (events.map (·.time)).filter (fun t => burnOk cfg t && sched.contains t) ∧
    (∃ days : List Int, s'.equity.map (·.1) = days.map (fun d => d * 86400 + CLOSE) ∧ days.Pairwise (· < ·) ∧
      (∀ d, d ∈ days ↔ dayOf cfg.start ≤ d ∧ d ≤ dayOf cfg.end_ ∧ weekday d ≤ 4 ∧
        burnOk cfg (d * 86400 + CLOSE) = true) ∧
      (targetAllocationTable cfg s').map (·.1) = days) ∧
    (∀ f ∈ s'.fills, todOf f.time = OPEN ∧ weekday (dayOf f.time) ≤ 4 ∧
      (∃ ev ∈ events, ev.kind = .marketOpen ∧ f.time = ev.time) ∧
      ∃ ev0 ∈ events, (burnOk cfg ev0.time && sched.contains ev0.time) = true ∧ ev0.time ≤ f.time) := by
  obtain ⟨hq, hf0, ha0, he0, hsim, _⟩ := init_fresh hinit
  have hfills0 : s0.fills = [] := by rw [Session.fills, hf0]; rfl
  refine ⟨?_, ?_, ?_⟩
  · have := C14_pcm cfg alpha px sched s0 s' events h
    rwa [ha0, List.map_nil, List.nil_append] at this
  · obtain ⟨days, d1, d2, d3⟩ := C14_equity_days cfg alpha px sched cfg.start cfg.end_ events s0 s' hsim htod h
    rw [he0] at d1
    simp only [List.map_nil, List.nil_append] at d1
    refine ⟨days, d1, d2, d3, ?_⟩
    have ht := (C14_table_run cfg alpha px sched s0 s' events (by rw [he0]; exact fun _ hp => nomatch hp) h).1
    have : s'.equity.map (fun p => dayOf p.1) = (s'.equity.map (·.1)).map dayOf := by
      rw [List.map_map]; rfl
    rw [ht, this, d1, List.map_map]
    exact (List.map_congr_left fun d _ => dayOf_stamp false d).trans (List.map_id _)
  · intro f hf
    obtain ⟨ef, f1, f2⟩ := C14_fills_clock cfg alpha px sched s0 cfg.start cfg.end_ events hsim
    obtain ⟨ef', g1, g2⟩ := C14_fills_after_first cfg alpha px sched s0 events (fun e he => (hq e he).2)
      (C12.C12_sorted cfg.start cfg.end_ false false events hsim)
    rw [h, hfills0, List.nil_append] at f1 g1
    simp only at f1 g1
    obtain ⟨ev, hm, ht, hk, htod', hwd⟩ := f2 f (by rw [← f1]; exact hf)
    exact ⟨htod', hwd, ⟨ev, hm, hk, ht⟩, g2 f (by rw [← g1]; exact hf)⟩

end

/-! ## Non-vacuity

A concrete session at `α := Rat` (the executable carrier of the model): Monday 2020-03-02 00:00:00 (day 18323) to
Wednesday 2020-03-04 23:59:59, daily rebalance, long-only sizer with no cash buffer, no fees, cash 1000, one asset
`"A"` quoted at a constant 10, fixed weight 1.  `cfgB` is the same with a burn-in at Wednesday 00:00:00. -/

namespace Ex

def cfg : SessionCfg Rat :=
  { start := 18323 * 86400, end_ := 18325 * 86400 + 86399, burnIn := none, rebalance := .daily,
    longOnly := true, param := 0, fee := .zero, initialCash := 1000, uni := .static ["A"], nan := 0 }

def cfgB : SessionCfg Rat := { cfg with burnIn := some (18325 * 86400) }

def px : Px Rat := fun _ a => if a = "A" then some 10 else none
def alpha : Alpha Rat := fixedAlpha [("A", 1)]

/-- the clock: 14:30 and 21:00 of Monday, Tuesday, Wednesday -/
def events : List SimEvent :=
  [⟨1583159400, .marketOpen⟩, ⟨1583182800, .marketClose⟩, ⟨1583245800, .marketOpen⟩,
   ⟨1583269200, .marketClose⟩, ⟨1583332200, .marketOpen⟩, ⟨1583355600, .marketClose⟩]

/-- the daily schedule: the three 21:00 closes -/
def sched : List Int := [1583182800, 1583269200, 1583355600]

theorem clock_eq : simEvents cfg.start cfg.end_ false false = .ok events := by rfl
theorem sched_eq : scheduleOf cfg = .ok sched := by decide +kernel
theorem schedB_eq : scheduleOf cfgB = .ok sched := by decide +kernel

/-- hypotheses of `C14_equity_clock` / `C14_session` hold -/
example : cfg.start ≤ cfg.end_ ∧ todOf cfg.start ≤ todOf cfg.end_ := by decide

/-- the instants `C14_pcm` predicts: all three closes without burn-in, only Wednesday's with it -/
example : (events.map (·.time)).filter (fun t => burnOk cfg t && sched.contains t) = sched := by decide
example : (events.map (·.time)).filter (fun t => burnOk cfgB t && sched.contains t) = [1583355600] := by decide

/-- the equity dates `C14_equity_days` predicts: Mon, Tue, Wed without burn-in; Wed only with it -/
example : ((daysFrom (dayOf cfg.start) (dayOf cfg.end_ + 1 - dayOf cfg.start).toNat).filter isBDay).filter
    (fun d => burnOk cfg (d * 86400 + CLOSE)) = [18323, 18324, 18325] := by decide
example : ((daysFrom (dayOf cfgB.start) (dayOf cfgB.end_ + 1 - dayOf cfgB.start).toNat).filter isBDay).filter
    (fun d => burnOk cfgB (d * 86400 + CLOSE)) = [18325] := by decide

def isOk {β : Type} (r : Except Err β) : Bool := match r with | .ok _ => true | .error _ => false

/-- construction succeeds, with the clock and schedule above -/
theorem init_ok (c : SessionCfg Rat) (hok : isOk (Session.init c) = true)
    (hc : simEvents c.start c.end_ false false = .ok events) (hs : scheduleOf c = .ok sched) :
    ∃ s0, Session.init c = .ok (s0, events, sched) := by
  rcases h : Session.init c with e | ⟨s0, evs, sc⟩
  · rw [h] at hok; cases hok
  · obtain ⟨_, _, _, _, h1, h2⟩ := init_fresh h
    rw [hc] at h1; rw [hs] at h2
    injection h1 with h1; injection h2 with h2
    subst h1; subst h2
    exact ⟨s0, rfl⟩

theorem initA : ∃ s0, Session.init cfg = .ok (s0, events, sched) :=
  init_ok cfg (by decide +kernel) clock_eq sched_eq

theorem initB : ∃ s0, Session.init cfgB = .ok (s0, events, sched) :=
  init_ok cfgB (by decide +kernel) clock_eq schedB_eq

/-- the state after the first `n` events of the constructed session `c` -/
def after (c : SessionCfg Rat) (n : Nat) : Option (Session Rat × Option (Int × Err)) :=
  (Session.init c).toOption.map fun r => Session.runEvents c alpha px r.2.2 r.1 (r.2.1.take n)

/-- **without burn-in**, the first three events evaluated by the kernel: nothing at Monday's open; the first
portfolio construction at Monday's 21:00 close (one allocation record, one equity point of 1000); its order of
100 `A` fills at Tuesday's 14:30 open — no fill before the first rebalance, fills only at market opens. -/
example : (after cfg 1).map (fun r => (r.1.allocations.length, r.1.equity.length, r.1.fills.length)) = some (0, 0, 0) := by
  decide +kernel
example : (after cfg 3).map (fun r => r.1.allocations) = some [(1583182800, [("A", 1)])] := by decide +kernel
example : (after cfg 3).map (fun r => r.1.equity) = some [(1583182800, 1000)] := by decide +kernel
example : (after cfg 3).map (fun r => r.1.fills.map fun f => (f.time, f.asset, f.qty, f.price, f.commission)) =
    some [(1583245800, "A", 100, 10, 0)] := by decide +kernel
example : (after cfg 3).map (fun r => r.2.isNone) = some true := by decide +kernel

/-- **with the burn-in**, the whole run evaluated by the kernel: it returns normally; the only portfolio
construction is at Wednesday's close; one equity point; one table row (date 18325) carrying that allocation. -/
theorem runB_ok : (Session.run cfgB alpha px).toOption.map (fun r => r.2.isNone) = some true := by decide +kernel
example : (Session.run cfgB alpha px).toOption.map (fun r => r.1.allocations) = some [(1583355600, [("A", 1)])] := by
  decide +kernel
example : (Session.run cfgB alpha px).toOption.map (fun r => r.1.equity) = some [(1583355600, 1000)] := by
  decide +kernel
example : (Session.run cfgB alpha px).toOption.map (fun r => r.1.fills.length) = some 0 := by decide +kernel
example : (Session.run cfgB alpha px).toOption.map (fun r => targetAllocationTable cfgB r.1) =
    some [(18325, some [("A", 1)])] := by decide +kernel

/-- the hypotheses of `C14_session` are met by `cfgB`, and its conclusion specialises to the values above -/
example : ∃ s0 s', Session.init cfgB = .ok (s0, events, sched) ∧ todOf cfgB.start ≤ todOf cfgB.end_ ∧
    Session.runEvents cfgB alpha px sched s0 events = (s', none) ∧
    s'.allocations.map (·.1) = [1583355600] ∧
    (∃ days : List Int, s'.equity.map (·.1) = days.map (fun d => d * 86400 + CLOSE) ∧
      (targetAllocationTable cfgB s').map (·.1) = days) := by
  obtain ⟨s0, h0⟩ := initB
  have hr := runB_ok
  simp only [run_eq, h0, Except.map, Except.toOption, Option.map_some, Option.some.injEq,
    Option.isNone_iff_eq_none] at hr
  refine ⟨s0, (Session.runEvents cfgB alpha px sched s0 events).1, h0, by decide, Prod.ext rfl hr, ?_⟩
  obtain ⟨h1, ⟨days, d1, _, _, d4⟩, _⟩ := C14_session cfgB alpha px s0 _ events sched h0 (by decide)
    (Prod.ext rfl hr)
  refine ⟨?_, days, d1, d4⟩
  rw [h1]; decide

/-- `C14_fills_idle` on a concrete prefix: without burn-in, Monday's open is not a rebalance instant -/
example : ∀ ev ∈ events.take 1, (burnOk cfg ev.time && sched.contains ev.time) = false := by decide

end Ex

end Qs.C14
