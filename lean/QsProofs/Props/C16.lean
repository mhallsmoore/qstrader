import QsProofs.Lemmas.Signals
import Mathlib.Data.Rat.Floor
import Mathlib.Tactic.NormNum

/-!
# C16 — Signals equal their definitions over the trailing window of supplied closes

After any stream of positive prices, N-period momentum equals last/first − 1 over the most recent N+1
prices, the N-period moving average equals the mean of the most recent N prices, and N-period volatility
equals the population standard deviation of the most recent N simple returns times sqrt(252), each using
the shorter available window while warming up (0 when no return exists yet); different lookbacks and assets
never influence each other.  During a backtest every signal receives exactly one observation per asset per
business day — that day's close — and an asset that enters a dynamic universe later starts with an empty
window.  (Here: per update of the collection, `C16_collection*`, `C16_cadence*`; that a backtest makes one
update per close is `Props/C16Session.lean`.)

The `Sig.*` vocabulary of the statements is defined in `QsProofs/Lemmas/Signals.lean`; all of it iterates or
observes functions of `QsModel/Signals.lean`.  `Signal.new` satisfies `Sig.Holds` with empty streams
(`Sig.holds_new`) and `SignalsCollection.update` preserves it (`C16_collection_signal`).

Hypotheses forced by the proofs beyond positivity of the supplied prices:
* `lbs ≠ []` — a signal without lookbacks raises on every append (`self.lookbacks[0]`).
* collection level only: the tracked assets of a signal are pairwise distinct (`assets.Nodup`).  With the
  initial asset list `["A", "A"]` the update feeds `A` twice per day, so "exactly one observation per day"
  fails; `updateAssets` never introduces a duplicate (`Sig.updateAssets_nodup`).
The lookbacks need not be distinct.
-/

set_option linter.unusedSectionVars false

namespace Qs

/-- C16 (window): a `deque(maxlen = k)` fed a stream holds exactly the last `k` items of the stream. -/
theorem C16_window {β : Type} (k : Nat) (xs : List β) : xs.foldl (dequePush k) [] = lastN k xs :=
  Sig.window k xs

/-- C16 (window), from a buffer that already holds the window of an earlier stream `pre`. -/
theorem C16_window_from {β : Type} (k : Nat) (pre xs : List β) :
    xs.foldl (dequePush k) (lastN k pre) = lastN k (pre ++ xs) :=
  Sig.window_gen k xs pre

theorem C16_window_length {β : Type} (k : Nat) (xs : List β) :
    (lastN k xs).length = min k xs.length ∧ lastN k xs <:+ xs ∧ (xs.length ≤ k → lastN k xs = xs) :=
  ⟨Sig.lastN_length k xs, Sig.lastN_suffix k xs, Sig.lastN_of_length_le k xs⟩

example : [1, 2, 3, 4, 5].foldl (dequePush 3) [] = [3, 4, 5] := by decide
example : [1, 2].foldl (dequePush 3) [] = [1, 2] := by decide
example : lastN 3 [1, 2, 3, 4, 5] = [3, 4, 5] := by decide

section
variable {α : Type} [Field α] [LinearOrder α] [IsStrictOrderedRing α] [FloorRing α] [NumOps α] [LawfulNumOps α]

/-- C16 (append): with at least one lookback configured, an append is accepted iff the price is positive;
a refused price changes nothing and reports `ValueError`; an accepted one keeps kind, lookbacks, assets. -/
theorem C16_append_ok (s : Signal α) (a : String) (p : α) (hL : s.lookbacks ≠ []) :
    ((s.append a p).2 = none ↔ 0 < p) ∧ (¬ 0 < p → s.append a p = (s, some .value)) ∧
    (s.append a p).1.kind = s.kind ∧ (s.append a p).1.lookbacks = s.lookbacks ∧
    (s.append a p).1.assets = s.assets :=
  ⟨(Sig.append_snd s a p).trans (and_iff_left hL), fun hp => Sig.append_of_not s a p fun h => hp h.1,
    Sig.append_cfg s a p⟩

/-- C16 (independence): appending to asset `a` leaves every buffer of every other asset unchanged —
for every signal state, every price, every lookback. -/
theorem C16_indep (s : Signal α) (a b : String) (p : α) (l : Nat) (hb : b ≠ a) :
    (s.append a p).1.findBuffer b l = s.findBuffer b l :=
  Sig.findBuffer_append_ne s a b p l hb

/-- every append of a sequence of positive prices is accepted -/
theorem C16_buffer_no_error (kind : SignalKind) (lbs : List Nat) (assets : List String)
    (ops : List (String × α)) (hl : lbs ≠ []) (hpos : ∀ op ∈ ops, 0 < op.2)
    (pre post : List (String × α)) (op : String × α) (hsplit : ops = pre ++ op :: post) :
    ((Sig.appendAll (Signal.new kind lbs assets) pre).append op.1 op.2).2 = none := by
  refine (Sig.append_snd _ _ _).mpr ⟨hpos op (by rw [hsplit]; simp), ?_⟩
  rw [Sig.appendAll_lookbacks]
  simpa [Signal.new] using hl

/-- C16 (buffer): after any sequence of appends with positive prices to a fresh signal, every asset that
is tracked from the start or has received a price has, for every configured lookback `l`, the buffer
`(a, bump kind l)` holding exactly the last `bump kind l` prices supplied for `a` (`bump` is `l + 1` for
momentum and volatility, `l` for the moving average).  All lookbacks of `a` see the same stream, and
only `a`'s own prices enter it. -/
theorem C16_buffer (kind : SignalKind) (lbs : List Nat) (assets : List String) (ops : List (String × α))
    (hl : lbs ≠ []) (hpos : ∀ op ∈ ops, 0 < op.2)
    (a : String) (ha : a ∈ assets ∨ a ∈ ops.map (·.1)) (l : Nat) (hl' : l ∈ lbs) :
    (Sig.appendAll (Signal.new kind lbs assets) ops).findBuffer a (Signal.bump kind l) =
      some { asset := a, lookback := Signal.bump kind l,
             items := lastN (Signal.bump kind l) (Sig.streamOf a ops) } := by
  rw [(Sig.appendAll_new_store kind lbs assets ops hl hpos).findBuffer, if_pos ⟨(Sig.mem_trackAll _ _ _).mpr ha, by
    rw [Sig.appendAll_lookbacks]; exact List.mem_map.mpr ⟨l, hl', rfl⟩⟩]

/-- an asset that is neither tracked from the start nor has received a price has no buffer (`KeyError`) -/
theorem C16_untracked (kind : SignalKind) (lbs : List Nat) (assets : List String) (ops : List (String × α))
    (hl : lbs ≠ []) (hpos : ∀ op ∈ ops, 0 < op.2)
    (a : String) (ha : a ∉ assets) (ha' : a ∉ ops.map (·.1)) (l : Nat) :
    (Sig.appendAll (Signal.new kind lbs assets) ops).findBuffer a l = none := by
  rw [(Sig.appendAll_new_store kind lbs assets ops hl hpos).findBuffer, if_neg]
  rintro ⟨h1, _⟩
  rcases (Sig.mem_trackAll _ _ _).mp h1 with h2 | h2
  · exact ha h2
  · exact ha' h2

/-- C16 (late entrant): an asset first seen after any number of appends to other assets (whether or not it
was in the start universe) starts from the empty window: after its first price `p` its buffers hold `[p]`
(the last `bump kind l` items of `[p]`). -/
theorem C16_late (kind : SignalKind) (lbs : List Nat) (assets : List String) (ops : List (String × α))
    (hl : lbs ≠ []) (hpos : ∀ op ∈ ops, 0 < op.2)
    (a : String) (ha' : a ∉ ops.map (·.1)) (p : α) (hp : 0 < p) (l : Nat) (hl' : l ∈ lbs) :
    ((Sig.appendAll (Signal.new kind lbs assets) ops).append a p).1.findBuffer a (Signal.bump kind l) =
      some { asset := a, lookback := Signal.bump kind l, items := lastN (Signal.bump kind l) [p] } := by
  have h := (Sig.append_store (Sig.appendAll_new_store kind lbs assets ops hl hpos) a p hp).2
  rw [h.findBuffer, if_pos ⟨(Sig.mem_track _ _ _).mpr (Or.inr rfl), by
    rw [Sig.append_lookbacks, Sig.appendAll_lookbacks]; exact List.mem_map.mpr ⟨l, hl', rfl⟩⟩]
  simp [Sig.streamOf_eq_nil ha']

/-- refused prices (`≤ 0`) can be dropped from the sequence: they change nothing -/
theorem C16_refused_skipped (s : Signal α) (ops : List (String × α)) :
    Sig.appendAll s ops = Sig.appendAll s (ops.filter fun op => decide (0 < op.2)) := by
  induction ops generalizing s with
  | nil => rfl
  | cons op ops ih =>
    rw [List.filter_cons]
    by_cases hp : 0 < op.2
    · simp only [hp, decide_true, if_true, Sig.appendAll_cons]; exact ih _
    · simp only [hp, decide_false, Bool.false_eq_true, if_false, Sig.appendAll_cons,
        Sig.append_of_not s _ _ fun h => hp h.1]
      exact ih _

/-- C16 (momentum): on a window of positive prices the momentum is `last / first − 1`, and `0` while
fewer than two prices are available. -/
theorem C16_momentum (w : List α) (hpos : ∀ x ∈ w, 0 < x) :
    momentumOf w = if h : w.length < 2 then 0
      else w.getLast (Sig.ne_nil_of_not_lt_two h) / w.head (Sig.ne_nil_of_not_lt_two h) - 1 := by
  unfold momentumOf
  simp only [List.isEmpty_iff, Sig.pctChanges_eq_nil_iff]
  split
  · simp
  · rename_i h
    match w, hpos, h with
    | a :: b :: rest, hpos, _ => rw [Sig.cumReturn_eq, Sig.prod_returns a (b :: rest) hpos]; rfl
    | [a], _, h => simp at h
    | [], _, h => simp at h

/-- C16 (momentum, as called): `signal(asset, N)` of a momentum signal evaluates `last / first − 1` on the
most recent `N + 1` prices supplied for the asset (fewer while warming up). -/
theorem C16_momentum_call [TransOps α] (lbs : List Nat) (assets : List String) (ops : List (String × α))
    (hl : lbs ≠ []) (hpos : ∀ op ∈ ops, 0 < op.2)
    (a : String) (ha : a ∈ assets ∨ a ∈ ops.map (·.1)) (N : Nat) (hN : N ∈ lbs) :
    (Sig.appendAll (Signal.new .momentum lbs assets) ops).call a N =
      .ok (if h : (lastN (N + 1) (Sig.streamOf a ops)).length < 2 then 0
           else (lastN (N + 1) (Sig.streamOf a ops)).getLast (Sig.ne_nil_of_not_lt_two h) /
                (lastN (N + 1) (Sig.streamOf a ops)).head (Sig.ne_nil_of_not_lt_two h) - 1) := by
  rw [Sig.call_appendAll .momentum lbs assets ops hl hpos a ha N hN]
  exact congrArg _ (C16_momentum _ (Sig.forall_lastN _ (Sig.forall_streamOf (P := (0 < ·)) a hpos)))

/-- C16 (moving average): `np.mean` of the window. -/
theorem C16_sma (w : List α) : smaOf w = w.sum / (w.length : α) := Sig.meanOf_eq w

/-- C16 (moving average, as called): `signal(asset, N)` of an SMA signal is the mean of the most recent `N`
prices supplied for the asset (fewer while warming up). -/
theorem C16_sma_call [TransOps α] (lbs : List Nat) (assets : List String) (ops : List (String × α))
    (hl : lbs ≠ []) (hpos : ∀ op ∈ ops, 0 < op.2)
    (a : String) (ha : a ∈ assets ∨ a ∈ ops.map (·.1)) (N : Nat) (hN : N ∈ lbs) :
    (Sig.appendAll (Signal.new .sma lbs assets) ops).call a N =
      .ok ((lastN N (Sig.streamOf a ops)).sum / ((lastN N (Sig.streamOf a ops)).length : α)) := by
  rw [Sig.call_appendAll .sma lbs assets ops hl hpos a ha N hN]
  exact congrArg _ (C16_sma _)

/-- the simple returns of a window: one fewer than prices, the `i`-th is `w[i+1] / w[i] − 1` -/
theorem C16_returns (w : List α) :
    (pctChanges w).length = w.length - 1 ∧
    ∀ i x y, w[i]? = some x → w[i + 1]? = some y → (pctChanges w)[i]? = some (y / x - 1) :=
  ⟨Sig.pctChanges_length w, fun i x y => Sig.pctChanges_getElem? w i x y⟩

/-- population variance: the mean squared deviation from the mean -/
theorem C16_popVar (l : List α) :
    popVar l = (l.map fun x => (x - l.sum / (l.length : α)) ^ 2).sum / (l.length : α) ∧
    meanOf l = l.sum / (l.length : α) :=
  ⟨Sig.popVar_eq l, Sig.meanOf_eq l⟩

/-- C16 (volatility): `sqrt` of the population variance of the window's simple returns times `sqrt 252`
(for every interpretation of `sqrt`), and `0` when the window has no return yet. -/
theorem C16_vol [TransOps α] (w : List α) :
    volOf w = if pctChanges w = [] then 0
      else TransOps.sqrt (popVar (pctChanges w)) * TransOps.sqrt (252 : α) := by
  unfold volOf
  simp only [List.isEmpty_iff, ofInt_eq]
  norm_num

/-- C16 (volatility, as called): `signal(asset, N)` of a volatility signal uses the most recent `N + 1`
prices supplied for the asset, i.e. the most recent `N` simple returns (fewer while warming up). -/
theorem C16_vol_call [TransOps α] (lbs : List Nat) (assets : List String) (ops : List (String × α))
    (hl : lbs ≠ []) (hpos : ∀ op ∈ ops, 0 < op.2)
    (a : String) (ha : a ∈ assets ∨ a ∈ ops.map (·.1)) (N : Nat) (hN : N ∈ lbs) :
    (Sig.appendAll (Signal.new .vol lbs assets) ops).call a N =
      .ok (if pctChanges (lastN (N + 1) (Sig.streamOf a ops)) = [] then 0
           else TransOps.sqrt (popVar (pctChanges (lastN (N + 1) (Sig.streamOf a ops)))) *
                TransOps.sqrt (252 : α)) ∧
    (pctChanges (lastN (N + 1) (Sig.streamOf a ops))).length = min (N + 1) (Sig.streamOf a ops).length - 1 := by
  refine ⟨?_, by rw [Sig.pctChanges_length, Sig.lastN_length]⟩
  rw [Sig.call_appendAll .vol lbs assets ops hl hpos a ha N hN]
  exact congrArg _ (C16_vol _)

/-- a signal called for an asset without buffers raises `KeyError` -/
theorem C16_call_untracked [TransOps α] (kind : SignalKind) (lbs : List Nat) (assets : List String)
    (ops : List (String × α)) (hl : lbs ≠ []) (hpos : ∀ op ∈ ops, 0 < op.2)
    (a : String) (ha : a ∉ assets) (ha' : a ∉ ops.map (·.1)) (N : Nat) :
    (Sig.appendAll (Signal.new kind lbs assets) ops).call a N = .error .key := by
  unfold Signal.call
  rw [C16_untracked kind lbs assets ops hl hpos a ha ha']

/-! ## The collection: one observation per tracked asset per update -/

/-- C16 (collection): when every tracked asset (old or newly entering) of every signal has a positive mid
price, `SignalsCollection.update` reports no error, increases `warmup` by exactly one and applies
`Sig.dayStep uni mid` to every signal. -/
theorem C16_collection (c : SignalsCollection α) (uni : List String) (mid : String → α)
    (hwf : ∀ s ∈ c.signals, ∃ σ, Sig.Holds s σ)
    (hmid : ∀ s ∈ c.signals, ∀ a, a ∈ s.assets ∨ a ∈ uni → 0 < mid a) :
    c.update uni mid =
      ({ signals := c.signals.map (Sig.dayStep uni mid), warmup := c.warmup + 1 }, none) :=
  (Sig.update_none_iff_pos c _ uni mid hwf).mpr ⟨hmid, rfl⟩

/-- C16 (collection, per signal): the update keeps kind and lookbacks, extends the tracked assets by the
universe members not yet tracked (deduplicated), pushes exactly one observation `mid a` into every buffer
of every previously tracked asset, gives every newly tracked asset buffers holding exactly that one
observation (window started empty), creates no buffer for any other asset, and the result is again a
well-formed store (for the streams extended by one observation). -/
theorem C16_collection_signal (s : Signal α) (σ : String → List α) (hs : Sig.Holds s σ)
    (uni : List String) (mid : String → α) (hmid : ∀ a, a ∈ s.assets ∨ a ∈ uni → 0 < mid a) :
    let s' := Sig.dayStep uni mid s
    s'.kind = s.kind ∧ s'.lookbacks = s.lookbacks ∧
    s'.assets = s.assets ++ (uni.filter fun a => !s.assets.contains a).eraseDups ∧
    (∀ a ∈ s.assets, ∀ l b, s.findBuffer a l = some b →
        s'.findBuffer a l = some { b with items := dequePush l b.items (mid a) }) ∧
    (∀ a ∈ s'.assets, a ∉ s.assets → ∀ l ∈ s.lookbacks,
        s'.findBuffer a l = some { asset := a, lookback := l, items := dequePush l [] (mid a) }) ∧
    (∀ a, a ∉ s'.assets → ∀ l, s'.findBuffer a l = none) ∧
    Sig.Holds s' (fun a => if a ∈ s.assets ∨ a ∈ uni then σ a ++ [mid a] else []) := by
  obtain ⟨hk, hl, has⟩ := Sig.dayStep_cfg uni mid s
  have hmem := Sig.mem_dayStep_assets uni mid s
  have hfind := Sig.findBuffer_dayStep hs uni mid hmid
  refine ⟨hk, hl, has, fun a ha l b hb => ?_, fun a ha hna l hlm => ?_, fun a ha l => ?_,
    Sig.holds_dayStep hs uni mid hmid⟩
  · rw [hs.store.findBuffer] at hb
    split at hb <;> cases hb
    rename_i hc
    rw [hfind, if_pos ⟨Or.inl ha, hc.2⟩]
    simp [ha, Sig.dequePush_lastN]
  · rw [hfind, if_pos ⟨(hmem a).mp ha, hlm⟩, if_pos ((hmem a).mp ha), hs.store.fresh a hna]
    rfl
  · rw [hfind, if_neg fun hc => ha ((hmem a).mpr hc.1)]

/-- C16 (cadence, one signal): over any number of updates, the buffer `(a, bump kind l)` of a signal created
with the assets `A` holds the last `bump kind l` items of the stream "`mid a` of every day from the first day on
which `a` is tracked (in `A`, or in the universe of that or an earlier day), one per day, in order". -/
theorem C16_cadence (kind : SignalKind) (lbs : List Nat) (A : List String)
    (days : List (List String × (String → α))) (hl : lbs ≠ []) (hA : A.Nodup) (hpos : Sig.DaysPos A days)
    (a : String) (ha : a ∈ A ∨ ∃ d ∈ days, a ∈ d.1) (l : Nat) (hl' : l ∈ lbs) :
    (Sig.runDays (Signal.new kind lbs A) days).findBuffer a (Signal.bump kind l) =
      some { asset := a, lookback := Signal.bump kind l,
             items := lastN (Signal.bump kind l) (Sig.dayStream (decide (a ∈ A)) a days) } := by
  obtain ⟨_, hlb, hmem, hh⟩ := Sig.runDays_spec (Sig.holds_new (α := α) kind lbs A hl hA) days hpos
  rw [hh.store.findBuffer, if_pos]
  · simp [Signal.new]
  · refine ⟨(hmem a).mpr ha, ?_⟩
    rw [hlb]
    exact List.mem_map.mpr ⟨l, hl', rfl⟩

/-- C16 (cadence, collection): iterating `SignalsCollection.update` over the days never fails, `warmup`
counts the days, and every signal evolves by `Sig.runDays` independently of the other signals. -/
theorem C16_cadence_collection (c : SignalsCollection α) (days : List (List String × (String → α)))
    (hwf : ∀ s ∈ c.signals, ∃ σ, Sig.Holds s σ) (hpos : ∀ s ∈ c.signals, Sig.DaysPos s.assets days) :
    Sig.updateAll c days =
      ({ signals := c.signals.map fun s => Sig.runDays s days, warmup := c.warmup + days.length }, none) :=
  (Sig.updateAll_none_iff c _ days hwf).mpr ⟨hpos, rfl⟩

/-- a freshly configured collection is well formed -/
theorem C16_collection_new (specs : List (SignalKind × List Nat × List String))
    (h : ∀ sp ∈ specs, sp.2.1 ≠ [] ∧ sp.2.2.Nodup) :
    ∀ s ∈ specs.map (fun sp => (Signal.new sp.1 sp.2.1 sp.2.2 : Signal α)), ∃ σ, Sig.Holds s σ := by
  intro s hs
  obtain ⟨sp, hsp, rfl⟩ := List.mem_map.mp hs
  exact ⟨_, Sig.holds_new sp.1 sp.2.1 sp.2.2 (h sp hsp).1 (h sp hsp).2⟩

end

/-! ## Non-vacuity: prices 10, 11, 12.1 -/

section Examples

noncomputable local instance instNumOpsQ16 : NumOps ℚ := fieldNumOps ℚ
local instance instLawfulQ16 : LawfulNumOps ℚ := fieldNumOps_lawful ℚ

/-- the appends of the example: asset `A` receives 10, 11, 12.1, asset `B` (not in the start universe)
receives 7 in between -/
def exOps16 : List (String × ℚ) := [("A", 10), ("A", 11), ("B", 7), ("A", 121 / 10)]

theorem exOps16_pos : ∀ op ∈ exOps16, 0 < op.2 := by decide +kernel

theorem exStreamA : Sig.streamOf "A" exOps16 = [10, 11, 121 / 10] := by decide +kernel

theorem exStreamB : Sig.streamOf "B" exOps16 = [7] := by decide +kernel

/-- lookback 1: the buffer holds the last 2 prices; momentum `12.1 / 11 − 1 = 1/10` -/
example [TransOps ℚ] :
    (Sig.appendAll (Signal.new .momentum [1, 2] ["A"]) exOps16).call "A" 1 = .ok (1 / 10 : ℚ) := by
  rw [C16_momentum_call [1, 2] ["A"] exOps16 (by decide) exOps16_pos "A" (by decide) 1 (by decide)]
  exact congrArg _ (by decide +kernel)

/-- lookback 2: the buffer holds all 3 prices; momentum `12.1 / 10 − 1 = 21/100` -/
example [TransOps ℚ] :
    (Sig.appendAll (Signal.new .momentum [1, 2] ["A"]) exOps16).call "A" 2 = .ok (21 / 100 : ℚ) := by
  rw [C16_momentum_call [1, 2] ["A"] exOps16 (by decide) exOps16_pos "A" (by decide) 2 (by decide)]
  exact congrArg _ (by decide +kernel)

/-- the late entrant `B` has one price: momentum `0` (no return yet) -/
example [TransOps ℚ] :
    (Sig.appendAll (Signal.new .momentum [1, 2] ["A"]) exOps16).call "B" 2 = .ok (0 : ℚ) := by
  rw [C16_momentum_call [1, 2] ["A"] exOps16 (by decide) exOps16_pos "B" (by decide) 2 (by decide)]
  exact congrArg _ (by decide +kernel)

/-- an asset never seen raises `KeyError` -/
example [TransOps ℚ] :
    (Sig.appendAll (Signal.new .momentum [1, 2] ["A"]) exOps16).call "C" 2 = .error .key :=
  C16_call_untracked .momentum [1, 2] ["A"] exOps16 (by simp) exOps16_pos "C" (by simp) (by simp [exOps16]) 2

/-- SMA lookback 2: mean of 11 and 12.1 -/
example [TransOps ℚ] :
    (Sig.appendAll (Signal.new .sma [1, 2] ["A"]) exOps16).call "A" 2 = .ok (231 / 20 : ℚ) := by
  rw [C16_sma_call [1, 2] ["A"] exOps16 (by decide) exOps16_pos "A" (by decide) 2 (by decide)]
  exact congrArg _ (by decide +kernel)

/-- the returns of the window 10, 11, 12.1 are 1/10, 1/10: population variance 0 -/
example : pctChanges [(10 : ℚ), 11, 121 / 10] = [1 / 10, 1 / 10] ∧ popVar [(1 : ℚ) / 10, 1 / 10] = 0 := by
  decide +kernel

/-- volatility lookback 2 uses the two returns 1/10, 1/10, whatever `sqrt` is -/
example [TransOps ℚ] :
    (Sig.appendAll (Signal.new .vol [1, 2] ["A"]) exOps16).call "A" 2 =
      .ok (TransOps.sqrt (0 : ℚ) * TransOps.sqrt 252) := by
  rw [(C16_vol_call [1, 2] ["A"] exOps16 (by decide) exOps16_pos "A" (by decide) 2 (by decide)).1]
  have h2 : pctChanges (lastN (2 + 1) (Sig.streamOf "A" exOps16)) = [1 / 10, 1 / 10] := by decide +kernel
  have h3 : popVar [(1 : ℚ) / 10, 1 / 10] = 0 := by decide +kernel
  rw [h2, h3]
  simp

/-- a refused price: nothing changes -/
example (s : Signal ℚ) : s.append "A" (-1) = (s, some .value) := Sig.append_of_not s "A" (-1) fun h => absurd h.1 (by norm_num)

/-- two days; `B` enters the universe on day 2.  `A` has the stream 10, 11; `B` has the stream 7. -/
def exDays16 : List (List String × (String → ℚ)) :=
  [(["A"], fun a => if a = "A" then 10 else 5), (["A", "B"], fun a => if a = "A" then 11 else 7)]

theorem exDays16_pos : Sig.DaysPos ["A"] exDays16 := Sig.daysPos_of_forall fun d hd a => by
  simp only [exDays16, List.mem_cons, List.not_mem_nil, or_false] at hd
  rcases hd with rfl | rfl <;> simp only <;> split <;> norm_num

example : (Sig.runDays (Signal.new .momentum [1] ["A"]) exDays16).findBuffer "A" 2 =
    some { asset := "A", lookback := 2, items := [10, 11] } := by
  exact (C16_cadence .momentum [1] ["A"] exDays16 (by decide) (by decide) exDays16_pos "A" (by decide) 1
    (by decide)).trans (congrArg (fun w => some (Buffer.mk "A" 2 w)) (by decide +kernel))

example : (Sig.runDays (Signal.new .momentum [1] ["A"]) exDays16).findBuffer "B" 2 =
    some { asset := "B", lookback := 2, items := [7] } := by
  exact (C16_cadence .momentum [1] ["A"] exDays16 (by decide) (by decide) exDays16_pos "B"
    (Or.inr ⟨(["A", "B"], fun a => if a = "A" then 11 else 7), by simp [exDays16], by decide⟩) 1
    (by decide)).trans (congrArg (fun w => some (Buffer.mk "B" 2 w)) (by decide +kernel))

/-- one update of a fresh collection whose universe gains `B`: no error, `warmup` becomes 1, and the SMA
signal now tracks `A, B` with one observation each -/
example :
    let c : SignalsCollection ℚ := { signals := [Signal.new .sma [2] ["A"]], warmup := 0 }
    (c.update ["A", "B"] (fun a => if a = "A" then 10 else 7)).2 = none ∧
    (c.update ["A", "B"] (fun a => if a = "A" then 10 else 7)).1.warmup = 1 := by
  intro c
  have h := C16_collection c ["A", "B"] (fun a => if a = "A" then 10 else 7)
    (C16_collection_new [(.sma, [2], ["A"])] (by simp))
    (by intro s _ a _; show (0 : ℚ) < if a = "A" then 10 else 7; split <;> norm_num)
  rw [h]
  exact ⟨rfl, rfl⟩

example :
    let s' := Sig.dayStep ["A", "B"] (fun a => if a = "A" then (10 : ℚ) else 7) (Signal.new .sma [2] ["A"])
    s'.assets = ["A", "B"] ∧ s'.findBuffer "B" 2 = some { asset := "B", lookback := 2, items := [7] } := by
  intro s'
  obtain ⟨_, _, h3, _, h5, _⟩ := C16_collection_signal (Signal.new .sma [2] ["A"]) _
    (Sig.holds_new (α := ℚ) .sma [2] ["A"] (by simp) (by simp)) ["A", "B"]
    (fun a => if a = "A" then (10 : ℚ) else 7) (by intro a _; show (0 : ℚ) < if a = "A" then 10 else 7; split <;> norm_num)
  have hA : s'.assets = ["A", "B"] := by
    rw [h3]; simp [Signal.new, List.eraseDups_cons]
  refine ⟨hA, ?_⟩
  have := h5 "B" (by rw [hA]; simp) (by simp [Signal.new]) 2 (by simp [Signal.new, Signal.bump])
  simpa [dequePush] using this

/-- the collection of one momentum and one SMA signal over the two days: no error, `warmup = 2` -/
example :
    (Sig.updateAll { signals := [Signal.new .momentum [1] ["A"], Signal.new .sma [2] ["A"]], warmup := 0 }
      exDays16).2 = none ∧
    (Sig.updateAll { signals := [Signal.new .momentum [1] ["A"], Signal.new .sma [2] ["A"]], warmup := 0 }
      exDays16).1.warmup = 2 := by
  have h := C16_cadence_collection
    { signals := [Signal.new .momentum [1] ["A"], Signal.new .sma [2] ["A"]], warmup := 0 } exDays16
    (C16_collection_new [(.momentum, [1], ["A"]), (.sma, [2], ["A"])] (by simp))
    (by
      intro s hs
      simp only [List.mem_cons, List.not_mem_nil, or_false] at hs
      rcases hs with rfl | rfl <;> exact exDays16_pos)
  rw [h]
  simp [exDays16]

end Examples

end Qs
