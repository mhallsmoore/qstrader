import QsModel.Num
import Mathlib.Algebra.Order.Floor.Ring
import Mathlib.Algebra.Order.Floor.Defs
import Mathlib.Tactic.Ring
import Mathlib.Tactic.FieldSimp
import Mathlib.Tactic.Linarith
import Mathlib.Tactic.Positivity

/-!
# The lawful carrier

Any linear ordered field with a floor, together with a `NumOps` instance that obeys `LawfulNumOps`
(the Boolean comparisons decide the order, `floorI`/`ceilI` are the floor and ceiling, `round2` is
round-half-even to two decimals, the `isclose` tolerance is non-negative).  Every theorem that needs
arithmetic is stated over it; the structural lemmas (dictionaries, frames, the order book) need only the
notation classes of the model.  `TransOps` (`sqrt`/`exp`/`log`/`pow`) is left completely uninterpreted:
theorems quantify over every instance.
-/

class LawfulNumOps (α : Type) [Field α] [LinearOrder α] [IsStrictOrderedRing α] [FloorRing α] [NumOps α] : Prop where
  ofInt_eq : ∀ n : Int, (NumOps.ofInt n : α) = (n : α)
  lt_iff : ∀ a b : α, NumOps.lt a b = true ↔ a < b
  le_iff : ∀ a b : α, NumOps.le a b = true ↔ a ≤ b
  beq_iff : ∀ a b : α, NumOps.beq a b = true ↔ a = b
  abs_eq : ∀ a : α, NumOps.abs a = |a|
  floorI_eq : ∀ a : α, NumOps.floorI a = ⌊a⌋
  ceilI_eq : ∀ a : α, NumOps.ceilI a = ⌈a⌉
  tiny_nonneg : (0 : α) ≤ NumOps.tiny
  -- the properties treat `round2` as opaque (C01 holds for any rounding): no theorem uses this law
  round2_eq : ∀ a : α, NumOps.round2 a = ((Num.roundHalfEvenI (a * 100) : Int) : α) / 100

export LawfulNumOps (ofInt_eq floorI_eq ceilI_eq tiny_nonneg)
attribute [simp] LawfulNumOps.ofInt_eq LawfulNumOps.floorI_eq LawfulNumOps.ceilI_eq

section
variable {α : Type} [Field α] [LinearOrder α] [IsStrictOrderedRing α] [FloorRing α] [NumOps α] [LawfulNumOps α]

@[simp] theorem lt_eq (a b : α) : NumOps.lt a b = decide (a < b) :=
  Bool.eq_iff_iff.mpr ((LawfulNumOps.lt_iff a b).trans decide_eq_true_iff.symm)

@[simp] theorem le_eq (a b : α) : NumOps.le a b = decide (a ≤ b) :=
  Bool.eq_iff_iff.mpr ((LawfulNumOps.le_iff a b).trans decide_eq_true_iff.symm)

@[simp] theorem beq_eq (a b : α) : NumOps.beq a b = decide (a = b) :=
  Bool.eq_iff_iff.mpr ((LawfulNumOps.beq_iff a b).trans decide_eq_true_iff.symm)

-- primed: `abs_eq` is Mathlib's `|a| = b ↔ …`, and these lemmas live in the root namespace
@[simp] theorem abs_eq' (a : α) : NumOps.abs a = |a| := LawfulNumOps.abs_eq a

@[simp] theorem zero_eq : (Num.zero : α) = 0 := by simp [Num.zero]
@[simp] theorem one_eq : (Num.one : α) = 1 := by simp [Num.one]

omit [NumOps α] [LawfulNumOps α] in
theorem Qs.intCast_pos {n : Int} (h : 0 < n) : (0 : α) < (n : α) := Int.cast_pos.mpr h

omit [NumOps α] [LawfulNumOps α] in
theorem Qs.neg_intCast_pos {n : Int} (h : n < 0) : (0 : α) < -(n : α) := neg_pos.mpr (Int.cast_lt_zero.mpr h)

omit [FloorRing α] [NumOps α] [LawfulNumOps α] in
theorem Qs.add_pos_step {a b : α} (ha : 0 ≤ a) (hb : 0 < b) : 0 ≤ a + b ∧ a + b ≠ 0 :=
  ⟨add_nonneg ha hb.le, (add_pos_of_nonneg_of_pos ha hb).ne'⟩

end

/-- The canonical lawful instance on any linear ordered field with a floor, used for the non-vacuity examples.
Its `tiny` is the rational `10⁻⁸`, not the double `1e-8` of the executable instance (`RatInst.tiny_value`): the
witnesses of C10/C11 at the `tiny` boundary are stated for this one. -/
@[reducible] noncomputable def fieldNumOps (α : Type) [Field α] [LinearOrder α] [FloorRing α] : NumOps α where
  ofInt n := (n : α)
  lt a b := decide (a < b)
  le a b := decide (a ≤ b)
  beq a b := decide (a = b)
  abs a := |a|
  floorI a := ⌊a⌋
  ceilI a := ⌈a⌉
  tiny := 1 / 100000000
  -- `Num.roundHalfEvenI (a * 100) / 100` with the Boolean tests of this very instance written out, so that
  -- `round2_eq` below holds by `rfl`
  round2 a :=
    let x := a * 100
    let f := ⌊x⌋
    let d := x - (f : α)
    let half : α := ((1 : Int) : α) / ((2 : Int) : α)
    let r : Int := if decide (d < half) = true then f else if decide (half < d) = true then f + 1
                   else if f % 2 = 0 then f else f + 1
    (r : α) / 100

theorem fieldNumOps_tiny (α : Type) [Field α] [LinearOrder α] [FloorRing α] :
    (fieldNumOps α).tiny = 1 / 100000000 := rfl

theorem fieldNumOps_lawful (α : Type) [Field α] [LinearOrder α] [IsStrictOrderedRing α] [FloorRing α] :
    @LawfulNumOps α _ _ _ _ (fieldNumOps α) :=
  @LawfulNumOps.mk α _ _ _ _ (fieldNumOps α)
    (fun _ => rfl)
    (fun a b => by show decide (a < b) = true ↔ a < b; simp)
    (fun a b => by show decide (a ≤ b) = true ↔ a ≤ b; simp)
    (fun a b => by show decide (a = b) = true ↔ a = b; simp)
    (fun _ => rfl) (fun _ => rfl) (fun _ => rfl)
    (by show (0 : α) ≤ 1 / 100000000; positivity)
    (fun a => by
      show _ = ((@Num.roundHalfEvenI α _ _ (fieldNumOps α) (a * 100) : Int) : α) / 100
      rfl)
