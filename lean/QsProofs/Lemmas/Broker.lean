import QsProofs.Lemmas.NumBasic
import QsProofs.Lemmas.BrokerBasic
import Mathlib.Data.List.Forall2

/-!
# The broker state machine on the lawful carrier: ledgers, the extension relation, conservation

What `Props/C01` (cash conservation) and `Props/C15` (refusals) rest on.  The six ops directed at one portfolio are one
`Broker.call` (`step_pfOp`, `BrokerBasic`); so each property of a step (`step_ext`: histories only grow, by events that
continue the ledger and match the new fills; `step_total`: master + portfolio cash + cost of all fills moves by the
external transfer only) is proved once for `call`, from one fact about the four `Portfolio` methods
(`PfCall.run_pfExt`), and case by case only for the six remaining ops.  The invariants `WF_c01`, `FillsOK`, `PosUnique`
follow from `step_ext`, `create` apart (`Op.create_or`).
-/

set_option linter.unusedSectionVars false

namespace Qs
open NumOps

section
variable {α : Type} [Field α] [LinearOrder α] [IsStrictOrderedRing α] [FloorRing α] [NumOps α]
  [LawfulNumOps α]

def signedAmount (e : Event α) : α :=
  match e.kind with
  | .subscription => e.rawAmount
  | .withdrawal => -e.rawAmount
  | .assetTransaction => -e.rawAmount

def histSum (h : List (Event α)) : α := (h.map signedAmount).sum

/-- the stored cents fields are `round2` of the raw ones, placed in the documented column -/
def EventOK (e : Event α) : Prop :=
  e.balance = round2 e.rawBalance ∧
  match e.kind with
  | .subscription => e.credit = round2 e.rawAmount ∧ e.debit = 0
  | .withdrawal => e.debit = round2 e.rawAmount ∧ e.credit = 0
  | .assetTransaction =>
      (0 ≤ e.qty → e.long = true ∧ e.debit = round2 e.rawAmount ∧ e.credit = 0) ∧
      (e.qty < 0 → e.long = false ∧ e.credit = -(round2 e.rawAmount) ∧ e.debit = 0)

/-- running balances of `h` starting from cash `c`, every event well placed -/
def LedgerFrom (c : α) : List (Event α) → Prop
  | [] => True
  | e :: es => e.rawBalance = c + signedAmount e ∧ EventOK e ∧ LedgerFrom (c + signedAmount e) es

omit [LinearOrder α] [IsStrictOrderedRing α] [FloorRing α] [NumOps α] [LawfulNumOps α] in
@[simp] theorem histSum_nil : histSum ([] : List (Event α)) = 0 := rfl

omit [LinearOrder α] [IsStrictOrderedRing α] [FloorRing α] [NumOps α] [LawfulNumOps α] in
@[simp] theorem histSum_cons (e : Event α) (es) : histSum (e :: es) = signedAmount e + histSum es := by
  simp [histSum]

omit [LinearOrder α] [IsStrictOrderedRing α] [FloorRing α] [NumOps α] [LawfulNumOps α] in
@[simp] theorem histSum_append (h₁ h₂ : List (Event α)) : histSum (h₁ ++ h₂) = histSum h₁ + histSum h₂ := by
  simp [histSum]

omit [LinearOrder α] [IsStrictOrderedRing α] [FloorRing α] [LawfulNumOps α] in
theorem ledgerFrom_append (c : α) (h₁ h₂ : List (Event α)) :
    LedgerFrom c (h₁ ++ h₂) ↔ LedgerFrom c h₁ ∧ LedgerFrom (c + histSum h₁) h₂ := by
  induction h₁ generalizing c with
  | nil => simp [LedgerFrom]
  | cons e es ih =>
    simp only [List.cons_append, LedgerFrom, ih, histSum_cons, add_assoc, and_assoc]

omit [LinearOrder α] [IsStrictOrderedRing α] [FloorRing α] [NumOps α] [LawfulNumOps α] in
theorem histSum_single (e : Event α) : histSum [e] = signedAmount e := by
  rw [histSum_cons, histSum_nil, add_zero]

omit [LinearOrder α] [IsStrictOrderedRing α] [FloorRing α] [LawfulNumOps α] in
theorem ledgerFrom_single (c : α) (e : Event α) :
    LedgerFrom c [e] ↔ e.rawBalance = c + signedAmount e ∧ EventOK e := by
  simp only [LedgerFrom, and_true]

theorem ledgerFrom_iff_index (c : α) (h : List (Event α)) :
    LedgerFrom c h ↔
      ∀ i (hi : i < h.length), h[i].rawBalance = c + histSum (h.take (i + 1)) ∧ EventOK h[i] := by
  induction h generalizing c with
  | nil => simp [LedgerFrom]
  | cons e es ih =>
    -- index 0 is the head; index `j + 1` is index `j` of the tail, whose ledger starts after the head's amount
    simp only [LedgerFrom, ih, List.length_cons, Nat.forall_lt_succ_left', List.getElem_cons_zero,
      List.getElem_cons_succ, List.take_succ_cons, List.take_zero, histSum_cons, histSum_nil, add_zero, add_assoc,
      and_assoc]

/-- the ledger invariant of one portfolio, from cash 0 and no event; `pfLedger_iff` is the recursive reading -/
def PfLedger (p : Portfolio α) : Prop :=
  p.cash = histSum p.history ∧
  ∀ i (hi : i < p.history.length),
    p.history[i].rawBalance = histSum (p.history.take (i + 1)) ∧ EventOK p.history[i]

theorem pfLedger_iff (p : Portfolio α) :
    PfLedger p ↔ p.cash = histSum p.history ∧ LedgerFrom 0 p.history := by
  unfold PfLedger
  rw [ledgerFrom_iff_index]
  simp only [zero_add]

/-! ## The methods of `Position` and `Portfolio`: the flat forms of `PositionsBasic` / `BrokerBasic` with the tests
read in the order of the carrier (`a < 0` for `lt a zero`, casts for `ofInt`) -/

theorem updatePrice_eq (p : Position α) (pr : α) (t : Int) :
    p.updatePrice pr t =
      if t < p.clock then (p, some .value)
      else if pr ≤ 0 then ({ p with clock := t }, some .value)
      else ({ p with clock := t, price := pr }, none) := by
  rw [Position.updatePrice_flat]
  simp only [le_eq, zero_eq, decide_eq_true_eq]

theorem transact_eq (p : Position α) (t : Txn α) :
    p.transact t =
      if t.qty = 0 then (p, none)
      else if t.time < p.clock then (p, some .value)
      else if t.price ≤ 0 then ({ p with clock := t.time }, some .value)
      else if 0 < t.qty then
        ({ p with price := t.price, clock := t.time, buyQ := p.buyQ + ofInt t.qty,
                  avgB := (p.avgB * p.buyQ + ofInt t.qty * t.price) / (p.buyQ + ofInt t.qty),
                  comB := p.comB + t.commission }, none)
      else
        ({ p with price := t.price, clock := t.time, sellQ := p.sellQ + ofInt (-t.qty),
                  avgS := (p.avgS * p.sellQ + ofInt (-t.qty) * t.price) / (p.sellQ + ofInt (-t.qty)),
                  comS := p.comS + t.commission }, none) := by
  rw [Position.transact_flat]
  simp only [le_eq, zero_eq, decide_eq_true_eq]

def subEv (t : Int) (a bal : α) : Event α :=
  { time := t, kind := .subscription, debit := 0, credit := round2 a, balance := round2 bal,
    rawAmount := a, rawBalance := bal }

def wdEv (t : Int) (a bal : α) : Event α :=
  { time := t, kind := .withdrawal, debit := round2 a, credit := 0, balance := round2 bal,
    rawAmount := a, rawBalance := bal }

theorem subscribe_eq (p : Portfolio α) (t : Int) (a : α) :
    p.subscribe t a =
      if t < p.clock then (p, some .value)
      else if a < 0 then ({ p with clock := t }, some .value)
      else ({ p with clock := t, cash := p.cash + a, history := p.history ++ [subEv t a (p.cash + a)] }, none) := by
  rw [subscribe_flat, subEv]
  simp only [lt_eq, zero_eq, decide_eq_true_eq]

theorem withdraw_eq (p : Portfolio α) (t : Int) (a : α) :
    p.withdraw t a =
      if t < p.clock then (p, some .value)
      else if a < 0 ∨ p.cash < a then ({ p with clock := t }, some .value)
      else ({ p with clock := t, cash := p.cash - a, history := p.history ++ [wdEv t a (p.cash - a)] }, none) := by
  rw [withdraw_flat, wdEv]
  simp only [lt_eq, zero_eq, decide_eq_true_eq]
  by_cases h2 : a < 0
  · simp only [h2, true_or, if_true]
  · simp only [h2, false_or, if_false]

theorem subscribePortfolioXfer_eq (pids : List String) (clock : Int) (master : α) (pid : String) (amount : α) :
    Qs.Broker.subscribePortfolioXfer (pids.contains pid) clock master amount =
      if amount < 0 then .error .value else if pid ∉ pids then .error .key
      else if master < amount then .error .value
      else .ok { master := master - amount, amount := amount, time := clock } := by
  simp only [Qs.Broker.subscribePortfolioXfer, lt_eq, zero_eq, decide_eq_true_eq, Bool.not_eq_true',
    List.contains_eq_mem, decide_eq_false_iff_not]

theorem withdrawPortfolioXfer_eq (pids : List String) (clock : Int) (master pfCash : α) (pid : String) (amount : α) :
    Qs.Broker.withdrawPortfolioXfer (pids.contains pid) clock master pfCash amount =
      if amount < 0 then .error .value else if pid ∉ pids then .error .key
      else if pfCash < amount then .error .value
      else .ok { master := master + amount, amount := amount, time := clock } := by
  simp only [Qs.Broker.withdrawPortfolioXfer, lt_eq, zero_eq, decide_eq_true_eq, Bool.not_eq_true',
    List.contains_eq_mem, decide_eq_false_iff_not]

theorem fillEvent_spec (t : Txn α) (cash : α) :
    (fillEvent t cash).kind = .assetTransaction ∧ (fillEvent t cash).time = t.time ∧ (fillEvent t cash).qty = t.qty ∧
    (fillEvent t cash).asset = t.asset ∧ (fillEvent t cash).rawAmount = t.price * (t.qty : α) + t.commission ∧
    (fillEvent t cash).rawBalance = cash - (t.price * (t.qty : α) + t.commission) ∧ EventOK (fillEvent t cash) := by
  unfold fillEvent
  split <;> rename_i hq <;>
    simp only [EventOK, ofInt_eq, Int.cast_zero, Int.cast_neg, Int.cast_one, neg_mul, one_mul, true_and,
      and_self]
  · exact ⟨fun h => absurd hq (not_lt.mpr h), fun _ => trivial⟩
  · exact ⟨fun _ => trivial, fun h => absurd h hq⟩

theorem transactAsset_eq (p : Portfolio α) (t : Txn α) :
    p.transactAsset t =
      if t.time < p.clock then (p, some .value)
      else
        (onOk (p.positions.transactPosition t).2
          { p with clock := t.time, positions := (p.positions.transactPosition t).1,
                   cash := p.cash - (t.price * (t.qty : α) + t.commission),
                   history := p.history ++ [fillEvent t p.cash] }
          { p with clock := t.time, positions := (p.positions.transactPosition t).1 },
         (p.positions.transactPosition t).2) := by
  rw [transactAsset_flat, ofInt_eq]

theorem mark_eq (p : Portfolio α) (asset : String) (price : α) (t : Int) :
    p.mark asset price t =
      match Positions.find? p.positions asset with
      | none => (p, none)
      | some pos =>
        if price < 0 ∨ t < p.clock then (p, some .value)
        else ({ p with positions := Positions.set p.positions (pos.updatePrice price t).1 },
              (pos.updatePrice price t).2) := by
  rw [mark_flat]
  cases Positions.find? p.positions asset with
  | none => rfl
  | some pos =>
    simp only [lt_eq, zero_eq, decide_eq_true_eq]
    by_cases h1 : price < 0
    · simp only [h1, true_or, if_true]
    · simp only [h1, false_or, if_false]

theorem mark_assets (p : Portfolio α) (asset : String) (price : α) (t : Int) :
    (p.mark asset price t).1.positions.map (·.asset) = p.positions.map (·.asset) := by
  rw [mark_eq]
  cases Positions.find? p.positions asset with
  | none => rfl
  | some pos => dsimp only; split_ifs <;> [rfl; exact Positions.keys_set _ _]

/-! The frame facts of `PositionsBasic` and `BrokerBasic` once more, stated on the lawful carrier. -/

theorem transact_asset (p : Position α) (t : Txn α) : (p.transact t).1.asset = p.asset :=
  Position.transact_asset p t

theorem mark_id (p : Portfolio α) (asset : String) (price : α) (t : Int) :
    (p.mark asset price t).1.id = p.id := (mark_frame p asset price t).1

theorem subscribe_id_c01 (p : Portfolio α) (t : Int) (a : α) : (p.subscribe t a).1.id = p.id := subscribe_id p t a

theorem withdraw_id_c01 (p : Portfolio α) (t : Int) (a : α) : (p.withdraw t a).1.id = p.id := withdraw_id p t a

theorem transactAsset_id_c01 (p : Portfolio α) (t : Txn α) : (p.transactAsset t).1.id = p.id := transactAsset_id p t

@[simp] theorem setPf_master_c01 (b : Broker α) (p : Portfolio α) : (b.setPf p).master = b.master := rfl
@[simp] theorem setPf_fillLog_c01 (b : Broker α) (p : Portfolio α) : (b.setPf p).fillLog = b.fillLog := rfl
@[simp] theorem setPf_clock_c01 (b : Broker α) (p : Portfolio α) : (b.setPf p).clock = b.clock := rfl
@[simp] theorem setPf_fee_c01 (b : Broker α) (p : Portfolio α) : (b.setPf p).fee = b.fee := rfl

/-! ## The cash totals and the conserved quantity -/

def cashSum (b : Broker α) : α := (b.entries.map (·.pf.cash)).sum

def total (b : Broker α) : α := b.master + cashSum b

def fillCost (x : String × Txn α) : α := x.2.price * (x.2.qty : α) + x.2.commission

def fillTotal (b : Broker α) : α := (b.fillLog.map fillCost).sum

/-- the quantity every step preserves up to `transferFlow` -/
def Conserved (b : Broker α) : α := total b + fillTotal b

/-- with the portfolios' cash and the fill log as they were, `Conserved` moves with the master balance -/
theorem conserved_of_master {b b' : Broker α} (hc : cashSum b' = cashSum b) (hf : b'.fillLog = b.fillLog) :
    Conserved b' = Conserved b + (b'.master - b.master) := by
  unfold Conserved total fillTotal
  rw [hc, hf]; ring

theorem setPf_cashSum {b : Broker α} {pid : String} {e : PfEntry α} (hu : UniqueIds b)
    (h : b.find? pid = some e) (p : Portfolio α) (hp : p.id = pid) :
    cashSum (b.setPf p) = cashSum b - e.pf.cash + p.cash := by
  obtain ⟨l1, l2, hl, hl', -⟩ := setPf_split hu h p hp
  unfold cashSum
  rw [hl, hl']
  simp only [List.map_append, List.map_cons, List.sum_append, List.sum_cons]
  ring

theorem setPf_conserve {b : Broker α} {pid : String} {e : PfEntry α} (hu : UniqueIds b)
    (hf : b.find? pid = some e) (p : Portfolio α) (hp : p.id = pid) (b' : Broker α)
    (he : b'.entries = (b.setPf p).entries) :
    UniqueIds b' ∧
      Conserved b' = b'.master + (cashSum b - e.pf.cash + p.cash) + (b'.fillLog.map fillCost).sum := by
  refine ⟨uniqueIds_of_ids (by rw [he, setPf_ids]) hu, ?_⟩
  have := setPf_cashSum hu hf p hp
  unfold Conserved total fillTotal
  unfold cashSum at *
  rw [he, this]

theorem conserved_setPf {b : Broker α} {pid : String} {e : PfEntry α} (hu : UniqueIds b)
    (hf : b.find? pid = some e) (p : Portfolio α) (hp : p.id = pid) (m : α)
    (fl : List (String × Txn α)) :
    UniqueIds { (b.setPf p) with master := m, fillLog := fl } ∧
      Conserved { (b.setPf p) with master := m, fillLog := fl } =
        m + (cashSum b - e.pf.cash + p.cash) + (fl.map fillCost).sum :=
  setPf_conserve hu hf p hp _ rfl

theorem pfs_cashSum {b b' : Broker α} (h : b'.entries.map (·.pf) = b.entries.map (·.pf)) :
    cashSum b' = cashSum b := by
  have := congrArg (List.map (fun p : Portfolio α => p.cash)) h
  unfold cashSum
  simp only [List.map_map, Function.comp_def] at this
  rw [this]

theorem clearQueues_conserved (b : Broker α) : Conserved b.clearQueues = Conserved b :=
  (conserved_of_master (pfs_cashSum (clearQueues_pfs b)) rfl).trans
    (by rw [show b.clearQueues.master = b.master from rfl, sub_self, add_zero])

/-! ## `PfExt`, `Ext`: histories only grow, by events that continue the ledger and match the new fills -/

def isTxnEv (e : Event α) : Bool := e.kind == .assetTransaction

def fillsIn (nf : List (String × Txn α)) (pid : String) : List (Txn α) :=
  (nf.filter (fun x => x.1 == pid)).map (·.2)

/-- what an asset-transaction event records of its fill -/
def evKey (e : Event α) : Int × Int × String × α := (e.time, e.qty, e.asset, e.rawAmount)

/-- what a fill contributes to the history -/
def txnKey (t : Txn α) : Int × Int × String × α :=
  (t.time, t.qty, t.asset, t.price * (t.qty : α) + t.commission)

theorem isTxnEv_fillEvent (t : Txn α) (cash : α) : isTxnEv (fillEvent t cash) = true := by
  rw [isTxnEv, (fillEvent_spec t cash).1]; rfl

theorem evKey_fillEvent (t : Txn α) (cash : α) : evKey (fillEvent t cash) = txnKey t := by
  obtain ⟨-, k2, k3, k4, k5, -⟩ := fillEvent_spec t cash
  rw [evKey, k2, k3, k4, k5]; rfl

theorem signedAmount_fillEvent (t : Txn α) (cash : α) :
    signedAmount (fillEvent t cash) = -(t.price * (t.qty : α) + t.commission) := by
  obtain ⟨k1, -, -, -, k5, -⟩ := fillEvent_spec t cash
  rw [signedAmount, k1, k5]

/-- `p'` is `p` with the events `ev` appended: cash moved by exactly their signed amounts, running
balances continue from `p.cash`, the asset-transaction events among them are the fills `nf` of this
portfolio in order, and there are `n` transfer events.  `pos` is the implication `PosUnique` needs. -/
structure PfExt (nf : List (String × Txn α)) (n : Nat) (p p' : Portfolio α) : Prop where
  id : p'.id = p.id
  pos : (p.positions.map (·.asset)).Nodup → (p'.positions.map (·.asset)).Nodup
  hist : ∃ ev, p'.history = p.history ++ ev ∧ p'.cash = p.cash + histSum ev ∧ LedgerFrom p.cash ev ∧
      (ev.filter isTxnEv).map evKey = (fillsIn nf p.id).map txnKey ∧
      (ev.filter (fun e => !isTxnEv e)).length = n

theorem pfExt_of_same {nf : List (String × Txn α)} {p p' : Portfolio α} (hid : p'.id = p.id)
    (hpos : (p.positions.map (·.asset)).Nodup → (p'.positions.map (·.asset)).Nodup)
    (hh : p'.history = p.history) (hc : p'.cash = p.cash) (hnf : fillsIn nf p.id = []) :
    PfExt nf 0 p p' :=
  ⟨hid, hpos, [], by simp [hh], by simp [hc], trivial, by simp [hnf], rfl⟩

theorem fillsIn_append (nf nf' : List (String × Txn α)) (pid : String) :
    fillsIn (nf ++ nf') pid = fillsIn nf pid ++ fillsIn nf' pid := by
  simp [fillsIn]

theorem PfExt.trans {nf nf' : List (String × Txn α)} {n m : Nat} {p p' p'' : Portfolio α}
    (h : PfExt nf n p p') (h' : PfExt nf' m p' p'') : PfExt (nf ++ nf') (n + m) p p'' := by
  obtain ⟨ev, e1, e2, e3, e4, e5⟩ := h.hist
  obtain ⟨ev', f1, f2, f3, f4, f5⟩ := h'.hist
  refine ⟨h'.id.trans h.id, fun hp => h'.pos (h.pos hp), ev ++ ev', ?_, ?_, ?_, ?_, ?_⟩
  · rw [f1, e1, List.append_assoc]
  · rw [f2, e2, histSum_append]; ring
  · rw [ledgerFrom_append]; rw [e2] at f3; exact ⟨e3, f3⟩
  · rw [List.filter_append, List.map_append, fillsIn_append, List.map_append, e4, f4, h.id]
  · rw [List.filter_append, List.length_append, e5, f5]

/-- `b'` extends `b`: same portfolios in the same order, the fill log grew by `nf`, and every
portfolio was extended (`PfExt`) by the events of its own new fills plus `n id` transfer events.  The middle clause
is what `FillsOK` needs: a fill is logged for an existing portfolio. -/
def Ext (n : String → Nat) (b b' : Broker α) : Prop :=
  ∃ nf, b'.fillLog = b.fillLog ++ nf ∧ (∀ x ∈ nf, b.has x.1 = true) ∧
    List.Forall₂ (fun e e' => PfExt nf (n e.pf.id) e.pf e'.pf) b.entries b'.entries

theorem Ext.ids {n : String → Nat} {b b' : Broker α} (h : Ext n b b') :
    b'.entries.map (·.pf.id) = b.entries.map (·.pf.id) := by
  obtain ⟨nf, -, -, h⟩ := h
  exact forall₂_ids h (fun _ _ h => h.id)

theorem Ext.trans {n m k : String → Nat} {b b' b'' : Broker α} (h : Ext n b b') (h' : Ext m b' b'')
    (hk : ∀ id, k id = n id + m id) : Ext k b b'' := by
  have hids := h.ids
  obtain ⟨nf, e1, e2, e3⟩ := h
  obtain ⟨nf', f1, f2, f3⟩ := h'
  refine ⟨nf ++ nf', by rw [f1, e1, List.append_assoc], ?_, ?_⟩
  · intro x hx
    rcases List.mem_append.mp hx with hx | hx
    · exact e2 x hx
    · rw [← has_eq_of_ids hids]; exact f2 x hx
  · refine forall₂_trans e3 f3 ?_
    intro a a' a'' h1 h2
    rw [hk]
    rw [h1.id] at h2
    exact h1.trans h2

theorem fillsIn_nil (pid : String) : fillsIn ([] : List (String × Txn α)) pid = [] := rfl

theorem fillsIn_single (pid : String) (t : Txn α) : fillsIn [(pid, t)] pid = [t] := by
  simp only [fillsIn, BEq.rfl, List.filter_cons_of_pos, List.filter_nil, List.map_cons, List.map_nil]

theorem fillsIn_eq_nil {nf : List (String × Txn α)} {pid : String} (h : ∀ x ∈ nf, x.1 ≠ pid) : fillsIn nf pid = [] := by
  unfold fillsIn
  rw [List.filter_eq_nil_iff.mpr fun x hx => by simpa using h x hx]
  rfl

theorem pfExt_refl (p : Portfolio α) : PfExt [] 0 p p :=
  pfExt_of_same rfl id rfl rfl rfl

/-- one event appended whose raw balance is the new cash -/
theorem pfExt_of_event {nf : List (String × Txn α)} {n : Nat} {p p' : Portfolio α} (e : Event α) (hid : p'.id = p.id)
    (hpos : (p.positions.map (·.asset)).Nodup → (p'.positions.map (·.asset)).Nodup)
    (hh : p'.history = p.history ++ [e]) (hc : p'.cash = p.cash + signedAmount e) (hr : e.rawBalance = p'.cash)
    (hok : EventOK e) (hk : ([e].filter isTxnEv).map evKey = (fillsIn nf p.id).map txnKey)
    (hn : ([e].filter (fun e => !isTxnEv e)).length = n) : PfExt nf n p p' :=
  ⟨hid, hpos, [e], hh, by rw [histSum_single, hc], (ledgerFrom_single _ _).mpr ⟨hr.trans hc, hok⟩, hk, hn⟩

theorem ext_of_pfs {b b' : Broker α} (h : b'.entries.map (·.pf) = b.entries.map (·.pf))
    (hfl : b'.fillLog = b.fillLog) : Ext (fun _ => 0) b b' := by
  refine ⟨[], by simp [hfl], by simp, ((map_eq_map_iff_forall₂ _ _ _ _).mp h.symm).imp ?_⟩
  intro e e' hee
  rw [← hee]
  exact pfExt_refl e.pf

theorem Ext.refl (b : Broker α) : Ext (fun _ => 0) b b := ext_of_pfs rfl rfl

theorem ext_setPf {b : Broker α} {pid : String} {e : PfEntry α} (hu : UniqueIds b)
    (hf : b.find? pid = some e) (p : Portfolio α) (b' : Broker α)
    (he : b'.entries = (b.setPf p).entries) (nf : List (String × Txn α))
    (hfl : b'.fillLog = b.fillLog ++ nf) (hnf : ∀ x ∈ nf, x.1 = pid) (n : String → Nat) (k : Nat)
    (hn : ∀ id, n id = if id = pid then k else 0) (hp : PfExt nf k e.pf p) : Ext n b b' := by
  have hid : p.id = pid := hp.id.trans (find?_id hf)
  subst hid
  refine ⟨nf, hfl, fun x hx => ?_, ?_⟩
  · rw [hnf x hx, has_iff_find, Option.isSome_iff_exists]
    exact ⟨e, hf⟩
  · rw [he]
    refine forall₂_upd (fun e : PfEntry α => e.pf.id) (fun x => { x with pf := p }) p.id hu hf (fun x _ hx => ?_) ?_
    · -- another portfolio: no event, and none of the new fills is its
      rw [hn, if_neg hx]
      exact pfExt_of_same rfl id rfl rfl (fillsIn_eq_nil fun y hy => by rw [hnf y hy]; exact fun h => hx h.symm)
    · rw [hn, if_pos (find?_id hf)]
      exact hp

/-- number of transfer events the op appends to portfolio `id` -/
def xferCount : Op α → Outcome → String → Nat
  | .subPf pid _, none, id => if id = pid then 1 else 0
  | .wdPf pid _, none, id => if id = pid then 1 else 0
  | .pfSubscribe pid _ _, none, id => if id = pid then 1 else 0
  | .pfWithdraw pid _ _, none, id => if id = pid then 1 else 0
  | _, _, _ => 0

/-- number of transfer events a run appends to portfolio `id` (one per accepted transfer aimed at it) -/
def xfers (b : Broker α) : List (Op α) → String → Nat
  | [], _ => 0
  | o :: os, id => xferCount o (step b o).2 id + xfers (step b o).1 os id

theorem ext_zero_of_eq {n : String → Nat} {b b' : Broker α} (h : Ext (fun _ => 0) b b')
    (hn : ∀ id, n id = 0) : Ext n b b' := by
  have : n = fun _ => 0 := funext hn
  rw [this]; exact h

theorem Ext.unique {n : String → Nat} {b b' : Broker α} (h : Ext n b b') (hu : UniqueIds b) :
    UniqueIds b' := uniqueIds_of_ids h.ids hu

theorem Ext.trans0 {b b' b'' : Broker α} (h : Ext (fun _ => 0) b b') (h' : Ext (fun _ => 0) b' b'') :
    Ext (fun _ => 0) b b'' := h.trans h' (fun _ => rfl)

/-- what an accepted call adds to the portfolio's cash -/
def PfCall.cash : PfCall α → α
  | .subscribe _ a => a
  | .withdraw _ a => -a
  | .transact t => -(t.price * (t.qty : α) + t.commission)
  | .mark .. => 0

/-- number of transfer events an accepted call appends -/
def PfCall.count : PfCall α → Nat
  | .subscribe .. => 1
  | .withdraw .. => 1
  | _ => 0

/-- What any call of a portfolio method leaves behind, whatever its outcome: a `PfExt` of the portfolio (no event on
refusal; on normal return one event for a transfer or a fill, none for a mark), and the cash moved by `c.cash`. -/
theorem PfCall.run_pfExt (c : PfCall α) (p : Portfolio α) :
    PfExt (onOk (c.run p).2 (c.fills p.id) []) (onOk (c.run p).2 c.count 0) p (c.run p).1 ∧
      (c.run p).1.cash = p.cash + onOk (c.run p).2 c.cash 0 := by
  cases c with
  | subscribe t a =>
    rw [PfCall.run, subscribe_eq]
    by_cases h1 : t < p.clock
    · rw [if_pos h1]; exact ⟨pfExt_refl _, (add_zero _).symm⟩
    by_cases h2 : a < 0
    · rw [if_neg h1, if_pos h2]; exact ⟨pfExt_of_same rfl id rfl rfl rfl, (add_zero _).symm⟩
    · rw [if_neg h1, if_neg h2]
      exact ⟨pfExt_of_event (subEv t a (p.cash + a)) rfl id rfl rfl rfl ⟨rfl, rfl, rfl⟩ rfl rfl, rfl⟩
  | withdraw t a =>
    rw [PfCall.run, withdraw_eq]
    by_cases h1 : t < p.clock
    · rw [if_pos h1]; exact ⟨pfExt_refl _, (add_zero _).symm⟩
    by_cases h2 : a < 0 ∨ p.cash < a
    · rw [if_neg h1, if_pos h2]; exact ⟨pfExt_of_same rfl id rfl rfl rfl, (add_zero _).symm⟩
    · rw [if_neg h1, if_neg h2]
      exact ⟨pfExt_of_event (wdEv t a (p.cash - a)) rfl id rfl (sub_eq_add_neg _ _) rfl ⟨rfl, rfl, rfl⟩ rfl rfl,
        sub_eq_add_neg _ _⟩
  | transact t =>
    rw [PfCall.run, transactAsset_eq]
    by_cases h1 : t.time < p.clock
    · rw [if_pos h1]; exact ⟨pfExt_refl _, (add_zero _).symm⟩
    · rw [if_neg h1]
      have hn := Positions.keys_transactPosition_nodup p.positions t
      obtain ⟨-, -, -, -, -, k6, k7⟩ := fillEvent_spec t p.cash
      have ht := isTxnEv_fillEvent t p.cash
      have hc : p.cash - (t.price * (t.qty : α) + t.commission) = p.cash + signedAmount (fillEvent t p.cash) := by
        rw [signedAmount_fillEvent]; exact sub_eq_add_neg _ _
      cases (p.positions.transactPosition t).2
      · refine ⟨pfExt_of_event (fillEvent t p.cash) rfl hn rfl hc k6 k7 ?_ ?_, sub_eq_add_neg _ _⟩
        · rw [List.filter_cons_of_pos ht, List.filter_nil, List.map_singleton, evKey_fillEvent]
          exact congrArg (List.map txnKey) (fillsIn_single p.id t).symm
        · rw [List.filter_cons_of_neg (by rw [ht]; decide)]; rfl
      · exact ⟨pfExt_of_same rfl hn rfl rfl rfl, (add_zero _).symm⟩
  | mark s pr t =>
    obtain ⟨hid, hc, hh, -⟩ := mark_frame p s pr t
    simp only [PfCall.run, PfCall.fills, PfCall.count, PfCall.cash, onOk_self, add_zero]
    exact ⟨pfExt_of_same hid (by rw [mark_assets]; exact id) hh hc rfl, hc⟩

theorem PfCall.run_cash (c : PfCall α) (p : Portfolio α) :
    (c.run p).1.id = p.id ∧ (c.run p).1.cash = p.cash + onOk (c.run p).2 c.cash 0 :=
  ⟨(c.run_pfExt p).1.id, (c.run_pfExt p).2⟩

theorem call_ext {b : Broker α} (hu : UniqueIds b) (pid : String) (c : PfCall α) (m : α) :
    Ext (fun id => if id = pid then onOk (b.call pid c m).2 c.count 0 else 0) b (b.call pid c m).1 := by
  cases hf : b.find? pid with
  | none => rw [call_none hf]; exact ext_zero_of_eq (Ext.refl b) (by simp [onOk])
  | some e =>
    have hp := (c.run_pfExt e.pf).1
    rw [(find?_id hf)] at hp
    rw [call_some hf]
    cases hr : (c.run e.pf).2 with
    | some err =>
      rw [hr] at hp
      exact ext_setPf hu hf _ _ rfl [] (by simp) (by simp) _ _ (fun _ => rfl) hp
    | none =>
      rw [hr] at hp
      dsimp only
      refine ext_setPf hu hf _ _ (by rfl) (c.fills pid) (by rfl) ?_ _ _ (fun _ => rfl) hp
      cases c <;> simp [PfCall.fills]

theorem call_ext0 {b : Broker α} (hu : UniqueIds b) (pid : String) (c : PfCall α) (m : α) (hc : c.count = 0) :
    Ext (fun _ => 0) b (b.call pid c m).1 := by
  simpa only [hc, onOk_self, ite_self] using call_ext hu pid c m

/-- the four transfers have `c.count = 1` and `xferCount` is the same `if`; a fill or a mark has `c.count = 0`;
a raised call counts nothing on either side -/
theorem pfOp_count {b : Broker α} {op : Op α} {g : Bool} {pid : String} {c : PfCall α} {m : α}
    (h : pfOp b op = some (g, pid, c, m)) (o : Outcome) (id : String) :
    xferCount op o id = if id = pid then onOk o c.count 0 else 0 := by
  cases op with
  | subPf _ _ | wdPf _ _ | pfSubscribe _ _ _ | pfWithdraw _ _ _ => cases h; cases o <;> [rfl; exact (ite_self 0).symm]
  | applyTxn _ _ | applyMark _ _ _ _ => cases h; cases o <;> exact (ite_self 0).symm
  | _ => simp only [pfOp, reduceCtorEq] at h

theorem update_ext (b : Broker α) (t : Int) (q : Quotes α) (hu : UniqueIds b) :
    Ext (fun _ => 0) b (b.update t q).1 :=
  (update_inv (I := fun b' => UniqueIds b' ∧ Ext (fun _ => 0) b b') b t q
    (fun b' pid a p ⟨h1, h2⟩ =>
      have := applyMark_eq_call b' pid a p t ▸ call_ext0 h1 pid (.mark a p t) b'.master rfl
      ⟨this.unique h1, h2.trans0 this⟩)
    (fun b' ⟨h1, h2⟩ =>
      have : Ext (fun _ => 0) b' b'.clearQueues :=
        ext_of_pfs (clearQueues_pfs b') rfl
      ⟨this.unique h1, h2.trans0 this⟩)
    (fun b' pid _ tx _ ⟨h1, h2⟩ =>
      have := applyTxn_eq_call b' pid tx ▸ call_ext0 h1 pid (.transact tx) b'.master rfl
      ⟨this.unique h1, h2.trans0 this⟩)
    ⟨hu, ext_of_pfs rfl rfl⟩).2

theorem step_ext (b : Broker α) (op : Op α) (hu : UniqueIds b) (hc : ∀ pid, op ≠ .create pid) :
    Ext (xferCount op (step b op).2) b (step b op).1 := by
  rcases op.pfOp_or b with ⟨g, pid, c, m, hop⟩ | ⟨a, rfl⟩ | ⟨a, rfl⟩ | ⟨pid, rfl⟩ | ⟨pid, o, rfl⟩ | ⟨t, q, rfl⟩ | ⟨t, rfl⟩
  · rw [funext (pfOp_count hop _), step_pfOp hop]
    cases g <;> [exact call_ext hu pid c m; exact ext_zero_of_eq (Ext.refl b) (by simp [onOk])]
  · have h := subscribeAccount_frame b a
    exact ext_zero_of_eq (ext_of_pfs (congrArg (fun b' => b'.entries.map (·.pf)) h) (congrArg (fun b' => b'.fillLog) h))
      (fun _ => rfl)
  · have h := withdrawAccount_frame b a
    exact ext_zero_of_eq (ext_of_pfs (congrArg (fun b' => b'.entries.map (·.pf)) h) (congrArg (fun b' => b'.fillLog) h))
      (fun _ => rfl)
  · exact absurd rfl (hc pid)
  · obtain ⟨h1, -, h3⟩ := submitOrder_pfs b pid o hu
    exact ext_zero_of_eq (ext_of_pfs h1 h3) (fun _ => rfl)
  · exact ext_zero_of_eq (update_ext b t q hu) (fun _ => rfl)
  · exact ext_zero_of_eq (ext_of_pfs rfl rfl) (fun _ => rfl)

/-! ## `Conserved` moves by the external transfer only -/

/-- cash entering (+) or leaving (−) the broker from outside through a transfer op -/
def transferFlow : Op α → Outcome → α
  | .subAcct a, none => a
  | .wdAcct a, none => -a
  | .pfSubscribe _ _ a, none => a
  | .pfWithdraw _ _ a, none => -a
  | _, _ => 0

/-- the external flow of a call: what enters master account and portfolio together, less what the fills cost -/
def callFlow (pid : String) (c : PfCall α) (δm : α) : Outcome → α
  | none => δm + c.cash + ((c.fills pid).map fillCost).sum
  | some _ => 0

theorem call_total {b : Broker α} (hu : UniqueIds b) (pid : String) (c : PfCall α) (m : α) :
    Conserved (b.call pid c m).1 = Conserved b + callFlow pid c (m - b.master) (b.call pid c m).2 := by
  cases hf : b.find? pid with
  | none => rw [call_none hf]; exact (add_zero _).symm
  | some e =>
    obtain ⟨hid, hc⟩ := c.run_cash e.pf
    -- whatever else the call writes, the portfolios' cash is the old sum with this one portfolio's cash exchanged
    have key := fun b' he => (setPf_conserve hu hf (c.run e.pf).1 (hid.trans (find?_id hf)) b' he).2
    rw [call_some hf]
    cases hr : (c.run e.pf).2 <;> rw [hr] at hc <;> dsimp only <;> refine (key _ (by rfl)).trans ?_ <;> rw [hc]
    · -- normal return: master balance `m`, cash moved by `c.cash`, the fills of `c` appended to the log
      simp only [callFlow, onOk, Conserved, total, fillTotal, List.map_append, List.sum_append]; ring
    · -- the method raised: cash, master balance and log as they were
      simp only [callFlow, onOk, Conserved, total, fillTotal, setPf_master, setPf_fillLog]; ring

theorem call_conserved {b : Broker α} (hu : UniqueIds b) (pid : String) (c : PfCall α)
    (hc : c.cash + ((c.fills pid).map fillCost).sum = 0) :
    Conserved (b.call pid c b.master).1 = Conserved b := by
  refine (call_total hu pid c b.master).trans ?_
  cases (b.call pid c b.master).2 <;> simp only [callFlow, sub_self, zero_add, add_zero, hc]

/-- The external transfer of a portfolio-directed op, read off its call.  `subPf` / `wdPf` move the amount between
master account and portfolio, a fill is paid by the portfolio and logged at the same cost, a mark moves nothing:
net 0.  The portfolio's own `subscribe` / `withdraw` bring the amount in or take it out. -/
theorem pfOp_flow {b : Broker α} {op : Op α} {g : Bool} {pid : String} {c : PfCall α} {m : α}
    (h : pfOp b op = some (g, pid, c, m)) (o : Outcome) :
    callFlow pid c (m - b.master) o = transferFlow op o := by
  cases op with
  | subPf pid' a =>
    cases h
    cases o <;> [(show b.master - a - b.master + a + 0 = 0; rw [add_zero, sub_sub_cancel_left, neg_add_cancel]); rfl]
  | wdPf pid' a =>
    cases h
    cases o <;> [(show b.master + a - b.master + -a + 0 = 0; rw [add_zero, add_sub_cancel_left, add_neg_cancel]); rfl]
  | applyTxn pid' t =>
    cases h
    cases o <;> [(show b.master - b.master + -(t.price * (t.qty : α) + t.commission) +
      (t.price * (t.qty : α) + t.commission + 0) = 0; rw [sub_self, zero_add, add_zero, neg_add_cancel]); rfl]
  | applyMark pid' s p t =>
    cases h; cases o <;> [(show b.master - b.master + 0 + 0 = 0; rw [sub_self, add_zero, add_zero]); rfl]
  | pfSubscribe pid' t a =>
    cases h; cases o <;> [(show b.master - b.master + a + 0 = a; rw [sub_self, zero_add, add_zero]); rfl]
  | pfWithdraw pid' t a =>
    cases h; cases o <;> [(show b.master - b.master + -a + 0 = -a; rw [sub_self, zero_add, add_zero]); rfl]
  | _ => simp only [pfOp, reduceCtorEq] at h

theorem update_total (b : Broker α) (t : Int) (q : Quotes α) (hu : UniqueIds b) :
    Conserved (b.update t q).1 = Conserved b :=
  (update_inv (I := fun b' => UniqueIds b' ∧ Conserved b' = Conserved b) b t q
    (fun b' pid a p ⟨h1, h2⟩ =>
      ⟨step_uniqueIds b' (.applyMark pid a p t) h1,
        (applyMark_eq_call b' pid a p t ▸
          call_conserved h1 pid (.mark a p t) (by simp [PfCall.cash, PfCall.fills])).trans h2⟩)
    (fun b' ⟨h1, h2⟩ => ⟨uniqueIds_of_ids (clearQueues_ids b') h1, (clearQueues_conserved b').trans h2⟩)
    (fun b' pid _ tx _ ⟨h1, h2⟩ =>
      ⟨step_uniqueIds b' (.applyTxn pid tx) h1,
        (applyTxn_eq_call b' pid tx ▸
          call_conserved h1 pid (.transact tx) (by simp [PfCall.cash, PfCall.fills, fillCost])).trans h2⟩)
    ⟨hu, rfl⟩).2

theorem step_total (b : Broker α) (op : Op α) (hu : UniqueIds b) :
    Conserved (step b op).1 = Conserved b + transferFlow op (step b op).2 := by
  rcases op.pfOp_or b with ⟨g, pid, c, m, hop⟩ | ⟨a, rfl⟩ | ⟨a, rfl⟩ | ⟨pid, rfl⟩ | ⟨pid, o, rfl⟩ | ⟨t, q, rfl⟩ | ⟨t, rfl⟩
  · rw [step_pfOp hop, ← pfOp_flow hop]
    cases g <;> [exact call_total hu pid c m; exact (add_zero _).symm]
  · rcases subscribeAccount_cases b a with ⟨e, h⟩ | h <;> simp only [step, h, transferFlow, add_zero]
    refine Eq.trans (conserved_of_master (b := b) rfl rfl) ?_
    show _ + (b.master + a - b.master) = _ + a
    rw [add_sub_cancel_left]
  · rcases withdrawAccount_cases b a with ⟨e, h⟩ | h <;> simp only [step, h, transferFlow, add_zero]
    refine Eq.trans (conserved_of_master (b := b) rfl rfl) ?_
    show _ + (b.master - a - b.master) = _ + -a
    rw [sub_sub_cancel_left]
  · -- an accepted `create` appends a portfolio without cash
    obtain ⟨hm, hl, ⟨-, -, he⟩ | ⟨-, -, he⟩⟩ := create_entries b pid
    · rw [step, he]; exact (add_zero _).symm
    · refine (conserved_of_master ?_ hl).trans (by rw [hm, sub_self]; rfl)
      simp only [cashSum, he, List.map_append, List.sum_append, Portfolio.new, List.map_cons, List.map_nil,
        List.sum_cons, List.sum_nil, zero_eq, add_zero]
  · obtain ⟨h1, h2, h3⟩ := submitOrder_pfs b pid o hu
    exact (conserved_of_master (pfs_cashSum h1) h3).trans (by rw [h2, sub_self]; rfl)
  · exact (update_total b t q hu).trans (add_zero _).symm
  · exact (conserved_of_master (b := b) (b' := { b with clock := t }) rfl rfl).trans (by rw [sub_self]; rfl)

/-! ## The invariants a step keeps because its result extends its argument -/

def WF_c01 (b : Broker α) : Prop := UniqueIds b ∧ ∀ e ∈ b.entries, PfLedger e.pf

/-- every logged fill belongs to an existing portfolio, and each portfolio's asset-transaction
events are exactly its logged fills, in order -/
def FillsOK (b : Broker α) : Prop :=
  (∀ x ∈ b.fillLog, b.has x.1 = true) ∧
  ∀ e ∈ b.entries, (e.pf.history.filter isTxnEv).map evKey = (fillsIn b.fillLog e.pf.id).map txnKey

/-- each portfolio's positions are a dictionary keyed by asset -/
def PosUnique (b : Broker α) : Prop := ∀ e ∈ b.entries, (e.pf.positions.map (·.asset)).Nodup

theorem PfExt.ledger {nf : List (String × Txn α)} {n : Nat} {p p' : Portfolio α} (h : PfExt nf n p p')
    (hp : PfLedger p) : PfLedger p' := by
  rw [pfLedger_iff] at *
  obtain ⟨ev, e1, e2, e3, -⟩ := h.hist
  rw [e1, e2, histSum_append, ledgerFrom_append, zero_add, ← hp.1]
  exact ⟨rfl, hp.2, e3⟩

theorem Ext.wf {n : String → Nat} {b b' : Broker α} (h : Ext n b b') (hw : WF_c01 b) : WF_c01 b' := by
  refine ⟨h.unique hw.1, ?_⟩
  obtain ⟨nf, -, -, hall⟩ := h
  intro e' he'
  obtain ⟨e, he, hr⟩ := forall₂_mem_right hall he'
  exact hr.ledger (hw.2 e he)

theorem Ext.posUnique {n : String → Nat} {b b' : Broker α} (h : Ext n b b') (hw : PosUnique b) :
    PosUnique b' := by
  obtain ⟨nf, -, -, hall⟩ := h
  intro e' he'
  obtain ⟨e, he, hr⟩ := forall₂_mem_right hall he'
  exact hr.pos (hw e he)

theorem Ext.fillsOK {n : String → Nat} {b b' : Broker α} (h : Ext n b b') (hw : FillsOK b) :
    FillsOK b' := by
  have hids := h.ids
  obtain ⟨nf, hfl, hhas, hall⟩ := h
  refine ⟨?_, ?_⟩
  · intro x hx
    rw [hfl] at hx
    rw [has_eq_of_ids hids]
    rcases List.mem_append.mp hx with hx | hx
    · exact hw.1 x hx
    · exact hhas x hx
  · intro e' he'
    obtain ⟨e, he, hr⟩ := forall₂_mem_right hall he'
    obtain ⟨ev, e1, -, -, e4, -⟩ := hr.hist
    rw [e1, hfl, List.filter_append, List.map_append, fillsIn_append, List.map_append, hr.id, e4,
      hw.2 e he]

theorem step_wf (b : Broker α) (op : Op α) (hw : WF_c01 b) : WF_c01 (step b op).1 := by
  rcases op.create_or with ⟨pid, rfl⟩ | hc
  · -- the new portfolio has no cash and no history
    exact ⟨step_uniqueIds b _ hw.1, create_forall hw.2 (fun _ => ⟨zero_eq, fun i hi => absurd hi (Nat.not_lt_zero i)⟩)⟩
  · exact (step_ext b op hw.1 hc).wf hw

theorem step_posUnique (b : Broker α) (op : Op α) (hu : UniqueIds b) (hw : PosUnique b) :
    PosUnique (step b op).1 := by
  rcases op.create_or with ⟨pid, rfl⟩ | hc
  · exact create_forall hw (fun _ => List.nodup_nil)
  · exact (step_ext b op hu hc).posUnique hw

theorem step_fillsOK (b : Broker α) (op : Op α) (hu : UniqueIds b) (hw : FillsOK b) :
    FillsOK (step b op).1 := by
  rcases op.create_or with ⟨pid, rfl⟩ | hc
  swap
  · exact (step_ext b op hu hc).fillsOK hw
  · simp only [step, FillsOK, (create_entries b pid).2.1]
    refine ⟨fun x hx => ?_, create_forall hw.2 (fun hno => ?_)⟩
    · obtain ⟨e, he, hid⟩ := (has_iff b x.1).mp (hw.1 x hx)
      exact (has_iff _ _).mpr ⟨e, create_mem pid he, hid⟩
    · -- no fill is logged under an unused id
      have : fillsIn b.fillLog pid = [] :=
        fillsIn_eq_nil fun x hx hxp => by rw [← hxp, hw.1 x hx] at hno; cases hno
      simp [Portfolio.new, this]

theorem run_wf_c01 (b : Broker α) (ops : List (Op α)) (hw : WF_c01 b) : WF_c01 (run b ops) :=
  run_induction step_wf ops b hw

theorem run_fillsOK (b : Broker α) (ops : List (Op α)) (hu : UniqueIds b) (hw : FillsOK b) :
    FillsOK (run b ops) :=
  (run_induction (I := fun b => UniqueIds b ∧ FillsOK b)
    (fun b op h => ⟨step_uniqueIds b op h.1, step_fillsOK b op h.1 h.2⟩) ops b ⟨hu, hw⟩).2

theorem new_inv {t : Int} {funds : α} {fee : FeeModel α} {b : Broker α}
    (h : Broker.new t funds fee = .ok b) : WF_c01 b ∧ FillsOK b ∧ PosUnique b ∧ b.entries = [] ∧
      b.fillLog = [] := by
  -- no portfolio and no fill: every clause speaks of an empty list
  obtain ⟨he, hl⟩ := new_fresh h
  have vac : ∀ {β : Type} {P : β → Prop}, ∀ x ∈ ([] : List β), P x := fun _ h => (List.not_mem_nil h).elim
  unfold WF_c01 FillsOK PosUnique UniqueIds
  rw [he, hl]
  exact ⟨⟨List.nodup_nil, vac⟩, ⟨vac, vac⟩, vac, rfl, rfl⟩

/-! ## Zero-sum: `total` moves by the external transfer less the cost of the new fills -/

/-- what the step appends to the fill log; that the log is only appended to is `step_fillLog` -/
def newFills (b : Broker α) (op : Op α) : List (String × Txn α) :=
  (step b op).1.fillLog.drop b.fillLog.length

theorem step_fillLog (b : Broker α) (op : Op α) (hu : UniqueIds b) :
    (step b op).1.fillLog = b.fillLog ++ newFills b op := by
  unfold newFills
  rcases op.create_or with ⟨pid, rfl⟩ | hc
  · rw [step, (create_entries b pid).2.1, List.drop_length, List.append_nil]
  · obtain ⟨nf, h, -⟩ := step_ext b op hu hc
    rw [h, List.drop_left]

theorem newFills_pfOp {b : Broker α} {op : Op α} {g : Bool} {pid : String} {c : PfCall α} {m : α}
    (h : pfOp b op = some (g, pid, c, m)) : newFills b op = onOk (step b op).2 (c.fills pid) [] := by
  unfold newFills
  rw [step_pfOp h]
  cases g with
  | true => simp [onOk]
  | false => rw [if_neg Bool.false_ne_true, call_fillLog]; simp

theorem newFills_other (b : Broker α) (op : Op α) (h1 : ∀ pid t, op ≠ .applyTxn pid t)
    (h2 : ∀ t q, op ≠ .update t q) : newFills b op = [] := by
  have key : (step b op).1.fillLog = b.fillLog := by
    rcases op.pfOp_or b with ⟨g, pid, c, m, hop⟩ | ⟨a, rfl⟩ | ⟨a, rfl⟩ | ⟨pid, rfl⟩ | ⟨pid, o, rfl⟩ | ⟨t, q, rfl⟩ | ⟨t, rfl⟩
    · have hc : c.fills pid = [] := by
        cases op <;> simp only [pfOp, Option.some.injEq, Prod.mk.injEq, reduceCtorEq] at hop <;>
          obtain ⟨-, rfl, rfl, -⟩ := hop <;> first | rfl | exact absurd rfl (h1 _ _)
      rw [step_pfOp hop]; cases g <;> [exact call_fillLog_of_nil b m hc; rfl]
    · exact congrArg (fun b' => b'.fillLog) (subscribeAccount_frame b a)
    · exact congrArg (fun b' => b'.fillLog) (withdrawAccount_frame b a)
    · exact (create_entries b pid).2.1
    · exact submitOrder_fillLog b pid o
    · exact absurd rfl (h2 t q)
    · rfl
  unfold newFills
  rw [key]; simp

/-- Cash crossing the boundary of {master account, portfolios} in one step: external
subscriptions / withdrawals, minus the cost `price * qty + commission` of every fill it logs. -/
def extFlow (b : Broker α) (op : Op α) : α :=
  transferFlow op (step b op).2 - ((newFills b op).map fillCost).sum

theorem step_zero_sum (b : Broker α) (op : Op α) (hu : UniqueIds b) :
    total (step b op).1 = total b + extFlow b op := by
  have h := step_total b op hu
  have hfl := step_fillLog b op hu
  unfold Conserved fillTotal at h
  rw [hfl] at h
  simp only [List.map_append, List.sum_append] at h
  unfold extFlow
  rw [eq_sub_of_add_eq h]; ring

def flows (b : Broker α) : List (Op α) → List α
  | [] => []
  | o :: os => extFlow b o :: flows (step b o).1 os

theorem run_zero_sum (b : Broker α) (ops : List (Op α)) (hu : UniqueIds b) :
    total (run b ops) = total b + (flows b ops).sum := by
  induction ops generalizing b with
  | nil => simp [run, flows]
  | cons o os ih =>
    simp only [run, flows, List.sum_cons]
    rw [ih _ (step_uniqueIds b o hu), step_zero_sum b o hu]; ring

end
end Qs
