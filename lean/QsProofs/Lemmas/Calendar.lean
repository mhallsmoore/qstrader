import QsModel.Calendar

/-!
# Calendar lemmas (C12, C13)

pandas' `date_range(start, end, freq)` rolls `start` forward to the offset and iterates while the stamp is `≤ end`; so does
the model.  Each such iteration is shown to be the FILTER of the day range `dayOf start … hiOf start end` by the offset's
predicate, where `hiOf start end` is the last date whose stamp at the start's time of day is `≤ end`.  On top of that: months
as consecutive intervals, the clock as the day templates of the business days of the range, and `sched`, the one shape of
the three range schedules.
-/

namespace Qs.Cal

theorem mem_daysFrom {lo : Int} {n : Nat} {x : Int} : x ∈ daysFrom lo n ↔ lo ≤ x ∧ x < lo + n := by
  induction n generalizing lo with
  | zero =>
    simp only [daysFrom, List.not_mem_nil, false_iff]
    omega
  | succ n ih =>
    simp only [daysFrom, List.mem_cons, ih]
    omega

theorem daysFrom_pairwise (lo : Int) (n : Nat) : (daysFrom lo n).Pairwise (· < ·) := by
  induction n generalizing lo with
  | zero => simp [daysFrom]
  | succ n ih =>
    simp only [daysFrom, List.pairwise_cons]
    exact ⟨fun x hx => by have := mem_daysFrom.1 hx; omega, ih _⟩

theorem daysFrom_filter_none (p : Int → Bool) (lo : Int) (n : Nat)
    (h : ∀ x, lo ≤ x → x < lo + n → p x = false) : (daysFrom lo n).filter p = [] := by
  induction n generalizing lo with
  | zero => rfl
  | succ n ih =>
    simp only [daysFrom, List.filter_cons]
    rw [h lo (by omega) (by omega)]
    simp only [Bool.false_eq_true, if_false]
    exact ih (lo+1) (fun x h1 h2 => h x (by omega) (by omega))

theorem daysFrom_append (lo : Int) (a b : Nat) :
    daysFrom lo (a + b) = daysFrom lo a ++ daysFrom (lo + a) b := by
  induction a generalizing lo with
  | zero => simp [daysFrom]
  | succ a ih =>
    have : a + 1 + b = (a + b) + 1 := by omega
    rw [this]; simp only [daysFrom, List.cons_append]
    rw [ih (lo+1)]
    have e : lo + 1 + (a : Int) = lo + ((a + 1 : Nat) : Int) := by omega
    rw [e]

theorem filter_daysFrom_pairwise (p : Int → Bool) (lo : Int) (n : Nat) :
    ((daysFrom lo n).filter p).Pairwise (· < ·) :=
  (daysFrom_pairwise lo n).filter p

theorem mem_filter_daysFrom {p : Int → Bool} {lo : Int} {n : Nat} {x : Int} :
    x ∈ (daysFrom lo n).filter p ↔ lo ≤ x ∧ x < lo + n ∧ p x = true := by
  rw [List.mem_filter, mem_daysFrom]; exact and_assoc

theorem mem_filter_range {p : Int → Bool} {lo hi x : Int} :
    x ∈ (daysFrom lo (hi + 1 - lo).toNat).filter p ↔ lo ≤ x ∧ x ≤ hi ∧ p x = true := by
  rw [mem_filter_daysFrom]
  constructor
  · rintro ⟨a, b, c⟩; exact ⟨a, by omega, c⟩
  · rintro ⟨a, b, c⟩; exact ⟨a, by omega, c⟩

/-- in a filtered day range, a `p`-free prefix `[lo, c)` can be dropped (also when `c` lies beyond `hi`) -/
theorem filter_range_skip (p : Int → Bool) {lo c : Int} (hi : Int) (hc : lo ≤ c)
    (h : ∀ x, lo ≤ x → x < c → p x = false) :
    (daysFrom lo (hi + 1 - lo).toNat).filter p = (daysFrom c (hi + 1 - c).toNat).filter p := by
  have e2 : lo + ((c - lo).toNat : Int) = c := by rw [Int.toNat_of_nonneg (by omega)]; omega
  by_cases hch : c ≤ hi + 1
  · have e : (hi + 1 - lo).toNat = (c - lo).toNat + (hi + 1 - c).toNat := by
      rw [← Int.toNat_add (by omega) (by omega)]; congr 1; omega
    rw [e, daysFrom_append, List.filter_append, e2,
      daysFrom_filter_none p _ _ (fun x a b => h x a (by rw [e2] at b; exact b)), List.nil_append]
  · rw [Int.toNat_of_nonpos (show hi + 1 - c ≤ 0 by omega)]
    refine daysFrom_filter_none p _ _ (fun x a b => h x a ?_)
    omega

theorem filter_range_cons (p : Int → Bool) {lo hi : Int} (hp : p lo = true) (hle : lo ≤ hi) :
    (daysFrom lo (hi + 1 - lo).toNat).filter p = lo :: (daysFrom (lo + 1) (hi + 1 - (lo + 1)).toNat).filter p := by
  have e : (hi + 1 - lo).toNat = (hi + 1 - (lo + 1)).toNat + 1 := by omega
  rw [e]
  simp only [daysFrom, List.filter_cons, hp, if_true]

/-! ## Roll forward, then iterate = filter of the day range -/

/-- the last day `c` whose stamp `c*86400 + todOf start` is `≤ end` -/
def hiOf (start end_ : Int) : Int := (end_ - todOf start) / 86400

theorem hiOf_spec (start end_ c : Int) : c * 86400 + todOf start ≤ end_ ↔ c ≤ hiOf start end_ := by
  unfold hiOf todOf; omega

theorem hiOf_le (start end_ : Int) : hiOf start end_ ≤ dayOf end_ := by
  unfold hiOf todOf dayOf; omega

theorem hiOf_eq (start end_ : Int) (h : todOf start ≤ todOf end_) : hiOf start end_ = dayOf end_ := by
  unfold hiOf todOf dayOf at *; omega

theorem iterDays_eq_filter (p : Int → Bool) (next : Int → Int)
    (hnext : ∀ d, p d = true → d < next d ∧ p (next d) = true ∧ ∀ x, d < x → x < next d → p x = false)
    (tod end_ hi : Int) (hhi : ∀ c : Int, c * 86400 + tod ≤ end_ ↔ c ≤ hi)
    (fuel : Nat) (cur : Int) (hp : p cur = true) (hfuel : hi - cur < fuel) :
    iterDays next tod end_ fuel cur = (daysFrom cur (hi + 1 - cur).toNat).filter p := by
  induction fuel generalizing cur with
  | zero =>
    have : (hi + 1 - cur).toNat = 0 := by omega
    rw [this]; rfl
  | succ fuel ih =>
    obtain ⟨h1, h2, h3⟩ := hnext cur hp
    unfold iterDays
    by_cases hle : cur ≤ hi
    · rw [if_pos ((hhi cur).2 hle), filter_range_cons p hp hle,
        filter_range_skip p hi (show cur + 1 ≤ next cur by omega) (fun x a b => h3 x (by omega) b),
        ih (next cur) h2 (by omega)]
    · have : (hi + 1 - cur).toNat = 0 := by omega
      rw [if_neg (fun h => hle ((hhi _).1 h)), this]; rfl

/-- `pd.date_range(start, end, freq)` = the on-offset days `d` with `dayOf start ≤ d ≤ hiOf start end`.
`next d` must be the least on-offset day strictly after `d`, for every `d`. -/
theorem dateRangeDays_eq_filter (p : Int → Bool) (next : Int → Int)
    (hnext : ∀ d, d < next d ∧ p (next d) = true ∧ ∀ x, d < x → x < next d → p x = false)
    (start end_ : Int) :
    dateRangeDays p next start end_ =
      (daysFrom (dayOf start) (hiOf start end_ + 1 - dayOf start).toNat).filter p := by
  have hle := hiOf_le start end_
  obtain ⟨h1, h2, h3⟩ := hnext (dayOf start)
  unfold dateRangeDays rollForward
  simp only []
  cases hp : p (dayOf start) with
  | true =>
    exact iterDays_eq_filter p next (fun d _ => hnext d) _ _ _ (hiOf_spec start end_) _ _ hp (by omega)
  | false =>
    -- the rolled-forward start `next (dayOf start)` is the first on-offset day of the range
    rw [filter_range_skip p _ (Int.le_of_lt h1) (fun x a b => by
      by_cases hx : x = dayOf start
      · rw [hx]; exact hp
      · exact h3 x (by omega) b)]
    exact iterDays_eq_filter p next (fun d _ => hnext d) _ _ _ (hiOf_spec start end_) _ _ h2 (by omega)

theorem isBDay_iff (d : Int) : isBDay d = true ↔ weekday d ≤ 4 := decide_eq_true_iff

theorem not_isBDay_iff (d : Int) : isBDay d = false ↔ ¬ weekday d ≤ 4 := decide_eq_false_iff_not

/-- for every `d`, business day or not -/
theorem nextBDay_spec (d : Int) :
    d < nextBDay d ∧ isBDay (nextBDay d) = true ∧ ∀ x, d < x → x < nextBDay d → isBDay x = false := by
  simp only [isBDay_iff, not_isBDay_iff, nextBDay, weekday]
  exact ⟨by omega, by omega, fun x h1 h2 => by omega⟩

theorem bdayRange_eq (start end_ : Int) :
    bdayRange start end_ =
      (daysFrom (dayOf start) (hiOf start end_ + 1 - dayOf start).toNat).filter isBDay :=
  dateRangeDays_eq_filter isBDay nextBDay nextBDay_spec start end_

/-- the weekly instance: `d + ((k - weekday d - 1) % 7 + 1)` is the least date after `d` that falls on weekday `k` -/
theorem weeklyDays_eq (k : Int) (hk0 : 0 ≤ k) (hk6 : k ≤ 6) (start end_ : Int) :
    dateRangeDays (fun d => decide (weekday d = k)) (fun d => d + ((k - weekday d - 1) % 7 + 1)) start end_ =
      (daysFrom (dayOf start) (hiOf start end_ + 1 - dayOf start).toNat).filter
        (fun d => decide (weekday d = k)) := by
  refine dateRangeDays_eq_filter _ _ (fun d => ?_) start end_
  simp only [decide_eq_true_eq, decide_eq_false_iff_not]
  simp only [weekday]
  exact ⟨by omega, by omega, fun x h1 h2 => by omega⟩

/-! ## Day templates -/

theorem dayTemplate_ff (d : Int) :
    dayTemplate false false d = [⟨d * 86400 + OPEN, .marketOpen⟩, ⟨d * 86400 + CLOSE, .marketClose⟩] := rfl

theorem template_time_bounds {pre post : Bool} {d : Int} {e : SimEvent} (h : e ∈ dayTemplate pre post d) :
    d * 86400 ≤ e.time ∧ e.time ≤ d * 86400 + 86340 := by
  simp only [dayTemplate, List.mem_append, List.mem_cons, List.not_mem_nil, or_false, List.mem_ite_nil_right,
    OPEN, CLOSE] at h
  rcases h with (⟨_, rfl⟩ | rfl | rfl) | ⟨_, rfl⟩ <;> (dsimp only; omega)

theorem template_sorted (pre post : Bool) (d : Int) :
    ((dayTemplate pre post d).map (·.time)).Pairwise (· < ·) := by
  cases pre <;> cases post <;>
    simp [dayTemplate, OPEN, CLOSE] <;> omega

theorem template_flatMap_sorted (pre post : Bool) (l : List Int) (hl : l.Pairwise (· < ·)) :
    ((l.flatMap (dayTemplate pre post)).map (·.time)).Pairwise (· < ·) := by
  induction l with
  | nil => simp
  | cons d l ih =>
    rw [List.pairwise_cons] at hl
    rw [List.flatMap_cons, List.map_append, List.pairwise_append]
    refine ⟨template_sorted pre post d, ih hl.2, ?_⟩
    intro a ha b hb
    rw [List.mem_map] at ha hb
    obtain ⟨ea, hea, rfl⟩ := ha
    obtain ⟨eb, heb, rfl⟩ := hb
    rw [List.mem_flatMap] at heb
    obtain ⟨d', hd', heb⟩ := heb
    have h1 := template_time_bounds hea
    have h2 := template_time_bounds heb
    have h3 := hl.1 d' hd'
    omega

/-! ## Months: consecutive intervals of 28 to 31 days -/

/-- the table of the model's `monthLen` as a function of (leap year, month of the year): `monthLen_eq` is `rfl`, and what is
said of month lengths becomes a finite check.  (The model's own definition is not ours to restate.) -/
def mlen (leap : Bool) (m : Nat) : Int :=
  match m with
  | 0 => 31 | 1 => if leap then 29 else 28 | 2 => 31 | 3 => 30 | 4 => 31 | 5 => 30
  | 6 => 31 | 7 => 31 | 8 => 30 | 9 => 31 | 10 => 30 | _ => 31

theorem monthLen_eq (k : Nat) : monthLen k = mlen (isLeap (1600 + (k / 12 : Nat))) (k % 12) := rfl

theorem monthLen_bounds (k : Nat) : 28 ≤ monthLen k ∧ monthLen k ≤ 31 := by
  have : ∀ l : Bool, ∀ m < 12, 28 ≤ mlen l m ∧ mlen l m ≤ 31 := by decide
  rw [monthLen_eq]
  exact this _ _ (Nat.mod_lt _ (by decide))

theorem monthStart_succ (k : Nat) : monthStart (k + 1) = monthStart k + monthLen k := rfl

theorem monthStart_mono {a b : Nat} (h : a ≤ b) : monthStart a ≤ monthStart b := by
  induction b with
  | zero => have : a = 0 := by omega
            subst this; exact Int.le_refl _
  | succ b ih =>
    by_cases hab : a = b + 1
    · subst hab; exact Int.le_refl _
    · have := ih (by omega)
      have := monthLen_bounds b
      rw [monthStart_succ]; omega

def InMonth (k : Nat) (d : Int) : Prop := monthStart k ≤ d ∧ d < monthStart (k + 1)

theorem inMonth_unique {k k' : Nat} {d : Int} (h : InMonth k d) (h' : InMonth k' d) : k = k' := by
  unfold InMonth at h h'
  by_cases h1 : k < k'
  · have := monthStart_mono (show k + 1 ≤ k' by omega); omega
  · by_cases h2 : k' < k
    · have := monthStart_mono (show k' + 1 ≤ k by omega); omega
    · omega

/-- every month has at least 28 days, so `fuel` months from month `k` reach a day less than `28 * fuel` after its start -/
theorem findMonthFrom_spec (d : Int) (fuel k : Nat) (hs : monthStart k ≤ d)
    (hf : d - monthStart k < 28 * (fuel : Int)) :
    ∃ k', findMonthFrom d fuel k (monthStart k) = (k', monthStart k') ∧ InMonth k' d := by
  induction fuel generalizing k with
  | zero => omega
  | succ fuel ih =>
    unfold findMonthFrom
    by_cases h : d < monthStart k + monthLen k
    · rw [if_pos h]
      exact ⟨k, rfl, hs, h⟩
    · rw [if_neg h]
      have := monthLen_bounds k
      exact ih (k + 1) (by rw [monthStart_succ]; omega) (by rw [monthStart_succ]; omega)

theorem findMonth_spec (d : Int) (hd : M0 ≤ d) :
    ∃ k, findMonth d = (k, monthStart k) ∧ InMonth k d := by
  unfold findMonth
  exact findMonthFrom_spec d _ 0 hd (by simp only [monthStart]; omega)

theorem findMonth_eq {k : Nat} {d : Int} (h : InMonth k d) : findMonth d = (k, monthStart k) := by
  have hd : M0 ≤ d := by have := monthStart_mono (Nat.zero_le k); unfold InMonth monthStart at *; omega
  obtain ⟨k', he, hk'⟩ := findMonth_spec d hd
  have := inMonth_unique h hk'
  subst this; exact he

theorem findMonth_fst_iff {k : Nat} {d : Int} (hd : M0 ≤ d) : (findMonth d).1 = k ↔ InMonth k d := by
  obtain ⟨k', he, hk'⟩ := findMonth_spec d hd
  rw [he]
  constructor
  · intro h; simp only at h; subst h; exact hk'
  · intro h; exact (inMonth_unique h hk').symm

/-- the last business day of month `k` -/
def lbd (k : Nat) : Int := lastBDayOfMonth k (monthStart k)

theorem lbd_spec (k : Nat) :
    monthStart (k + 1) - 3 ≤ lbd k ∧ lbd k < monthStart (k + 1) ∧ isBDay (lbd k) = true ∧
    ∀ x, lbd k < x → x < monthStart (k + 1) → isBDay x = false := by
  simp only [isBDay_iff, not_isBDay_iff, lbd, lastBDayOfMonth, weekday, monthStart_succ]
  generalize monthStart k + monthLen k = e
  exact ⟨by omega, by omega, by omega, fun x h1 h2 => by omega⟩

theorem lbd_inMonth (k : Nat) : InMonth k (lbd k) := by
  have := lbd_spec k
  have := monthLen_bounds k
  unfold InMonth; rw [monthStart_succ] at *; omega

theorem lbd_lt_succ (k : Nat) : lbd k < lbd (k + 1) := by
  have h1 := lbd_spec k
  have h2 := lbd_inMonth (k + 1)
  unfold InMonth at h2; omega

theorem isBMonthEnd_of_inMonth {k : Nat} {d : Int} (h : InMonth k d) : isBMonthEnd d = true ↔ d = lbd k := by
  unfold isBMonthEnd
  rw [findMonth_eq h]
  simp only [decide_eq_true_eq, lbd]

theorem isBMonthEnd_lbd (k : Nat) : isBMonthEnd (lbd k) = true :=
  (isBMonthEnd_of_inMonth (lbd_inMonth k)).2 rfl

theorem isBMonthEnd_iff_lbd {d : Int} (hd : M0 ≤ d) : isBMonthEnd d = true ↔ d = lbd (findMonth d).1 := by
  obtain ⟨k, he, hk⟩ := findMonth_spec d hd
  rw [he]; exact isBMonthEnd_of_inMonth hk

theorem isBDay_of_isBMonthEnd {d : Int} (hd : M0 ≤ d) (h : isBMonthEnd d = true) : isBDay d = true := by
  rw [(isBMonthEnd_iff_lbd hd).1 h]
  exact (lbd_spec _).2.2.1

theorem isBMonthEnd_iff_exists {d : Int} (hd : M0 ≤ d) : isBMonthEnd d = true ↔ ∃ k, d = lbd k := by
  constructor
  · intro h; exact ⟨_, (isBMonthEnd_iff_lbd hd).1 h⟩
  · rintro ⟨k, rfl⟩; exact isBMonthEnd_lbd k

theorem isBMonthEnd_eq_false {k : Nat} {x : Int} (hm : InMonth k x) (hne : x ≠ lbd k) : isBMonthEnd x = false := by
  rw [Bool.eq_false_iff, Ne, isBMonthEnd_of_inMonth hm]
  exact hne

theorem not_bme_before {k : Nat} {x : Int} (h1 : monthStart k ≤ x) (h2 : x < lbd k) : isBMonthEnd x = false := by
  have hl := lbd_spec k
  exact isBMonthEnd_eq_false ⟨h1, by omega⟩ (by omega)

theorem not_bme_between {k : Nat} {x : Int} (h1 : lbd k < x) (h2 : x < lbd (k + 1)) : isBMonthEnd x = false := by
  have hl := lbd_inMonth k
  unfold InMonth at hl
  by_cases hx : x < monthStart (k + 1)
  · exact isBMonthEnd_eq_false ⟨by omega, hx⟩ (by omega)
  · exact not_bme_before (by omega) h2

theorem isBMonthEnd_iff_last {k : Nat} {d : Int} (hk : InMonth k d) :
    isBMonthEnd d = true ↔ isBDay d = true ∧ ∀ x, d < x → x < monthStart (k + 1) → isBDay x = false := by
  have hl := lbd_spec k
  rw [isBMonthEnd_of_inMonth hk]
  constructor
  · rintro rfl; exact ⟨hl.2.2.1, hl.2.2.2⟩
  · rintro ⟨hb, hlater⟩
    -- `d < lbd k` makes `lbd k` a later business day of the month; `lbd k < d` makes `d` a weekend day
    by_cases h1 : d < lbd k
    · have := hlater (lbd k) h1 hl.2.1
      rw [hl.2.2.1] at this; cases this
    · by_cases h2 : lbd k < d
      · have := hl.2.2.2 d h2 hk.2
        rw [hb] at this; cases this
      · omega

/-! ## Closed form of `monthStart`: a month is found at a concrete date without the walk from 1600 -/

/-- day number of (1600+y)-01-01: 365 days a year plus the leap days of 1600 … 1600+y-1.  As 1600 is a multiple of 400,
the multiples of 4, 100 and 400 among those years are counted by the three quotients. -/
def yearStartC (y : Int) : Int := M0 + 365 * y + (y + 3) / 4 - (y + 99) / 100 + (y + 399) / 400

def monthsBefore (leap : Bool) : Nat → Int
  | 0 => 0
  | m + 1 => monthsBefore leap m + mlen leap m

def monthStartC (k : Nat) : Int :=
  yearStartC (k / 12 : Nat) + monthsBefore (isLeap (1600 + (k / 12 : Nat))) (k % 12)

/-- each quotient steps by one exactly at a multiple of its divisor -/
theorem leapQuot_succ (y : Int) :
    (y + 1 + 3) / 4 = (y + 3) / 4 + (if (1600 + y) % 4 = 0 then 1 else 0) ∧
    (y + 1 + 99) / 100 = (y + 99) / 100 + (if (1600 + y) % 100 = 0 then 1 else 0) ∧
    (y + 1 + 399) / 400 = (y + 399) / 400 + (if (1600 + y) % 400 = 0 then 1 else 0) :=
  ⟨by omega, by omega, by omega⟩

/-- the Gregorian rule by inclusion and exclusion -/
theorem isLeap_ind (n : Int) : (if isLeap n then (1 : Int) else 0) =
    (if n % 4 = 0 then 1 else 0) - (if n % 100 = 0 then 1 else 0) + (if n % 400 = 0 then 1 else 0) := by
  have d1 : n % 400 = 0 → n % 100 = 0 := by omega
  have d2 : n % 100 = 0 → n % 4 = 0 := by omega
  unfold isLeap
  by_cases h400 : n % 400 = 0
  · simp [h400, d1 h400, d2 (d1 h400)]
  · by_cases h100 : n % 100 = 0
    · simp [h400, h100, d2 h100]
    · by_cases h4 : n % 4 = 0 <;> simp [h400, h100, h4]

theorem yearStartC_succ (y : Int) :
    yearStartC (y + 1) = yearStartC y + 365 + if isLeap (1600 + y) then 1 else 0 := by
  obtain ⟨a, b, c⟩ := leapQuot_succ y
  unfold yearStartC
  rw [a, b, c, isLeap_ind]
  omega

theorem monthStartC_succ (k : Nat) : monthStartC (k + 1) = monthStartC k + monthLen k := by
  rw [monthLen_eq]
  unfold monthStartC
  by_cases h : k % 12 < 11
  · rw [show (k + 1) / 12 = k / 12 by omega, show (k + 1) % 12 = k % 12 + 1 by omega, monthsBefore]
    omega
  · -- December: the next month opens the next year
    have hy : ∀ leap, monthsBefore leap 12 = 365 + if leap then 1 else 0 := fun leap => by cases leap <;> rfl
    replace hy := hy (isLeap (1600 + (k / 12 : Nat)))
    rw [monthsBefore] at hy
    rw [show (k + 1) / 12 = k / 12 + 1 by omega, show (k + 1) % 12 = 0 by omega, show k % 12 = 11 by omega,
      Int.natCast_add, Int.cast_ofNat_Int, ← Int.add_assoc, yearStartC_succ, monthsBefore]
    omega

theorem monthStart_eq_closed (k : Nat) : monthStart k = monthStartC k := by
  induction k with
  | zero => rfl
  | succ k ih => rw [monthStart_succ, ih, monthStartC_succ]

/-- `InMonth k d` through the closed form.  An `abbrev`, so that `decide` sees two comparisons of integers: that is how
the lemmas below are used on a concrete date (`InMonth` itself would walk the months from 1600). -/
abbrev InMonthC (k : Nat) (d : Int) : Prop := monthStartC k ≤ d ∧ d < monthStartC (k + 1)

theorem findMonth_closed (k : Nat) {d : Int} (h : InMonthC k d) : findMonth d = (k, monthStartC k) := by
  unfold InMonthC at h
  rw [← monthStart_eq_closed] at h ⊢
  rw [← monthStart_eq_closed] at h
  exact findMonth_eq h

theorem isBMonthEnd_closed (k : Nat) {d : Int} (h : InMonthC k d) :
    isBMonthEnd d = decide (d = lastBDayOfMonth k (monthStartC k)) := by
  unfold isBMonthEnd
  rw [findMonth_closed k h]

theorem bmeRangeDays_closed (k : Nat) {start end_ : Int} (h : InMonthC k (dayOf start)) :
    bmeRangeDays start end_ =
      iterBME (todOf start) end_ (((dayOf end_ - dayOf start) / 28 + 2).toNat)
        (if dayOf start ≤ lastBDayOfMonth k (monthStartC k) then k else k + 1)
        (if dayOf start ≤ lastBDayOfMonth k (monthStartC k) then monthStartC k else monthStartC k + monthLen k) := by
  unfold bmeRangeDays
  simp only [findMonth_closed k h]
  split <;> rfl

/-! ## Business month ends: iterate = filter -/

/-- the fuel bound: `lbd` lies within the last three days of its month (`lbd_spec`) and a month has at least 28 days -/
theorem iterBME_eq_filter (tod end_ hi : Int) (hhi : ∀ c : Int, c * 86400 + tod ≤ end_ ↔ c ≤ hi)
    (fuel k : Nat) (hfuel : hi + 3 - monthStart (k + 1) < 28 * (fuel : Int)) :
    iterBME tod end_ fuel k (monthStart k) = (daysFrom (lbd k) (hi + 1 - lbd k).toNat).filter isBMonthEnd := by
  induction fuel generalizing k with
  | zero =>
    have := lbd_spec k
    have : (hi + 1 - lbd k).toNat = 0 := by omega
    rw [this]; rfl
  | succ fuel ih =>
    have hm := monthLen_bounds (k + 1)
    have hlt := lbd_lt_succ k
    unfold iterBME
    show (if lbd k * 86400 + tod ≤ end_ then lbd k :: iterBME tod end_ fuel (k + 1) (monthStart (k + 1)) else []) = _
    by_cases hle : lbd k ≤ hi
    · rw [if_pos ((hhi _).2 hle), filter_range_cons _ (isBMonthEnd_lbd k) hle,
        filter_range_skip _ hi (show lbd k + 1 ≤ lbd (k + 1) by omega) (fun x a b => not_bme_between (by omega) b),
        ih (k + 1) (by rw [monthStart_succ (k + 1)]; omega)]
    · have : (hi + 1 - lbd k).toNat = 0 := by omega
      rw [if_neg (fun h => hle ((hhi _).1 h)), this]; rfl

theorem bmeRangeDays_eq_filter (start end_ : Int) (h0 : M0 ≤ dayOf start) :
    bmeRangeDays start end_ =
      (daysFrom (dayOf start) (hiOf start end_ + 1 - dayOf start).toNat).filter isBMonthEnd := by
  obtain ⟨k, he, hk⟩ := findMonth_spec (dayOf start) h0
  have hle := hiOf_le start end_
  unfold bmeRangeDays
  simp only [he]
  unfold InMonth at hk
  have hm := monthLen_bounds (k + 1)
  have hs := monthStart_succ (k + 1)
  -- roll forward: the first business month end of the range is this month's if not yet passed, else next month's
  by_cases hd : dayOf start ≤ lastBDayOfMonth k (monthStart k)
  · rw [if_pos hd, filter_range_skip _ _ (show dayOf start ≤ lbd k from hd) (fun x a b => not_bme_before (by omega) b)]
    exact iterBME_eq_filter _ _ _ (hiOf_spec start end_) _ k (by omega)
  · have hl := lbd_spec (k + 1)
    have hd' : lbd k < dayOf start := by unfold lbd; omega
    rw [if_neg hd, filter_range_skip _ _ (show dayOf start ≤ lbd (k + 1) by omega)
      (fun x a b => not_bme_between (by omega) b)]
    exact iterBME_eq_filter _ _ _ (hiOf_spec start end_) _ (k + 1) (by omega)

/-! ## The clock: `simEvents` -/

theorem todOf_stamp (pre : Bool) (d : Int) : todOf (stamp pre d) = if pre then OPEN else CLOSE := by
  cases pre <;> simp only [stamp, todOf, OPEN, CLOSE, if_true, if_false, Bool.false_eq_true] <;> omega

theorem dayOf_stamp (pre : Bool) (d : Int) : dayOf (stamp pre d) = d := by
  cases pre <;> simp only [stamp, dayOf, OPEN, CLOSE, if_true, if_false, Bool.false_eq_true] <;> omega

theorem simEvents_ok_iff {start end_ : Int} {pre post : Bool} {evs : List SimEvent} :
    simEvents start end_ pre post = .ok evs ↔
      start ≤ end_ ∧ evs = (bdayRange start end_).flatMap (dayTemplate pre post) := by
  unfold simEvents
  split
  · exact ⟨fun h => (nomatch h), fun h => by omega⟩
  · exact ⟨fun h => by injection h with h; exact ⟨by omega, h.symm⟩, fun h => by rw [h.2]⟩

theorem mem_bdayRange {start end_ d : Int} :
    d ∈ bdayRange start end_ ↔ dayOf start ≤ d ∧ d ≤ hiOf start end_ ∧ isBDay d = true := by
  rw [bdayRange_eq, mem_filter_range]

theorem bdayRange_pairwise (start end_ : Int) : (bdayRange start end_).Pairwise (· < ·) := by
  rw [bdayRange_eq]; exact filter_daysFrom_pairwise _ _ _

theorem mem_bmeRangeDays {start end_ d : Int} (h0 : M0 ≤ dayOf start) :
    d ∈ bmeRangeDays start end_ ↔ dayOf start ≤ d ∧ d ≤ hiOf start end_ ∧ isBMonthEnd d = true := by
  rw [bmeRangeDays_eq_filter start end_ h0, mem_filter_range]

theorem mem_simEvents {start end_ : Int} {pre post : Bool} {evs : List SimEvent}
    (h : simEvents start end_ pre post = .ok evs) {e : SimEvent} :
    e ∈ evs ↔ ∃ d, dayOf start ≤ d ∧ d ≤ hiOf start end_ ∧ isBDay d = true ∧ e ∈ dayTemplate pre post d := by
  rw [(simEvents_ok_iff.1 h).2, List.mem_flatMap]
  simp only [mem_bdayRange, and_assoc]

theorem mem_clock_ff {start end_ : Int} {evs : List SimEvent} (h : simEvents start end_ false false = .ok evs)
    {e : SimEvent} (he : e ∈ evs) :
    ∃ d, dayOf start ≤ d ∧ d ≤ hiOf start end_ ∧ isBDay d = true ∧
      (e = ⟨d * 86400 + OPEN, .marketOpen⟩ ∨ e = ⟨d * 86400 + CLOSE, .marketClose⟩) := by
  obtain ⟨d, a, b, c, he'⟩ := (mem_simEvents h).1 he
  exact ⟨d, a, b, c, by simpa [dayTemplate] using he'⟩

theorem start_le_open {start end_ d : Int} (hstart : todOf start ≤ OPEN) (hd : d ∈ bdayRange start end_) :
    start ≤ d * 86400 + OPEN := by
  obtain ⟨h1, -, -⟩ := mem_bdayRange.1 hd
  unfold dayOf at h1
  unfold todOf at hstart
  omega

/-! ## The shape the three range schedules share -/

/-- the dates `lo … hi` that satisfy `p`, stamped: weekly, daily and end-of-month schedules are all of this form -/
def sched (pre : Bool) (p : Int → Bool) (lo hi : Int) : List Int :=
  ((daysFrom lo (hi + 1 - lo).toNat).filter p).map (stamp pre)

theorem mem_sched {pre : Bool} {p : Int → Bool} {lo hi x : Int} :
    x ∈ sched pre p lo hi ↔ ∃ d, lo ≤ d ∧ d ≤ hi ∧ p d = true ∧ stamp pre d = x := by
  simp only [sched, List.mem_map, mem_filter_range, and_assoc]

theorem sched_pairwise (pre : Bool) (p : Int → Bool) (lo hi : Int) : (sched pre p lo hi).Pairwise (· < ·) :=
  (filter_daysFrom_pairwise _ _ _).map _ (fun a b hab => by unfold stamp; omega)

theorem todOf_of_mem_sched {pre : Bool} {p : Int → Bool} {lo hi x : Int} (hx : x ∈ sched pre p lo hi) :
    todOf x = if pre then OPEN else CLOSE := by
  obtain ⟨d, _, rfl⟩ := List.mem_map.1 hx
  exact todOf_stamp pre d

theorem dayOf_of_mem_sched {pre : Bool} {p : Int → Bool} {lo hi x : Int} (hx : x ∈ sched pre p lo hi) :
    lo ≤ dayOf x ∧ dayOf x ≤ hi ∧ p (dayOf x) = true ∧ x = stamp pre (dayOf x) := by
  obtain ⟨d, a, b, c, rfl⟩ := mem_sched.1 hx
  rw [dayOf_stamp]
  exact ⟨a, b, c, rfl⟩

theorem sched_subset {pre : Bool} {p q : Int → Bool} {lo hi hi' x : Int} (hpq : ∀ d, lo ≤ d → p d = true → q d = true)
    (hh : hi ≤ hi') (hx : x ∈ sched pre p lo hi) : x ∈ sched pre q lo hi' := by
  obtain ⟨d, a, b, c, e⟩ := mem_sched.1 hx
  exact mem_sched.2 ⟨d, a, by omega, hpq d a c, e⟩

theorem sched_meets {p : Int → Bool} (start end_ : Int) (hp : ∀ d, dayOf start ≤ d → p d = true → isBDay d = true)
    (pre spre spost : Bool) (hle : start ≤ end_) {x : Int} (hx : x ∈ sched pre p (dayOf start) (hiOf start end_)) :
    ∃ evs, simEvents start end_ spre spost = .ok evs ∧
      ∃ e ∈ evs, e.time = x ∧ e.kind = (if pre then EvKind.marketOpen else EvKind.marketClose) := by
  obtain ⟨d, a, b, c, rfl⟩ := mem_sched.1 hx
  refine ⟨_, simEvents_ok_iff.2 ⟨hle, rfl⟩, ⟨stamp pre d, if pre then .marketOpen else .marketClose⟩, ?_, rfl, rfl⟩
  rw [List.mem_flatMap]
  refine ⟨d, mem_bdayRange.2 ⟨a, b, hp d a c⟩, ?_⟩
  cases pre <;> cases spre <;> cases spost <;> simp [dayTemplate, stamp]

theorem sched_in_range {pre : Bool} {p : Int → Bool} {start end_ x : Int}
    (hx : x ∈ sched pre p (dayOf start) (hiOf start end_)) :
    dayOf start ≤ dayOf x ∧ dayOf x ≤ dayOf end_ ∧ dayOf x * 86400 + todOf start ≤ end_ := by
  obtain ⟨a, b, _⟩ := dayOf_of_mem_sched hx
  have hle := hiOf_le start end_
  exact ⟨a, by omega, (hiOf_spec start end_ _).2 b⟩

/-! ## The schedules of the model are `sched`s -/

theorem parseWeekday_range {s : String} {k : Int} (h : parseWeekday s = some k) : 0 ≤ k ∧ k ≤ 4 := by
  unfold parseWeekday at h
  split at h <;> cases h <;> omega

theorem weeklyRebalances_eq (start end_ : Int) {s : String} {k : Int} (pre : Bool) (hp : parseWeekday s = some k) :
    weeklyRebalances start end_ s pre =
      .ok (sched pre (fun d => decide (weekday d = k)) (dayOf start) (hiOf start end_)) := by
  have hk := parseWeekday_range hp
  unfold weeklyRebalances sched
  rw [hp]
  simp only []
  rw [weeklyDays_eq k hk.1 (by omega)]

theorem weeklyRebalances_ok {start end_ : Int} {s : String} {pre : Bool} {l : List Int}
    (h : weeklyRebalances start end_ s pre = .ok l) :
    ∃ k, l = sched pre (fun d => decide (weekday d = k)) (dayOf start) (hiOf start end_) ∧
      ∀ d, decide (weekday d = k) = true → isBDay d = true := by
  cases hp : parseWeekday s with
  | none => unfold weeklyRebalances at h; rw [hp] at h; cases h
  | some k =>
    have hk := parseWeekday_range hp
    rw [weeklyRebalances_eq start end_ pre hp] at h
    injection h with h
    refine ⟨k, h.symm, fun d hd => ?_⟩
    simp only [decide_eq_true_eq] at hd
    rw [isBDay_iff]
    omega

/-- `pd.bdate_range` normalises both ends to midnight, so the daily schedule reaches `dayOf end` whatever the times of day -/
theorem dailyRebalances_eq (start end_ : Int) (pre : Bool) :
    dailyRebalances start end_ pre = sched pre isBDay (dayOf start) (dayOf end_) := by
  unfold dailyRebalances sched
  have h1 : hiOf (dayOf start * 86400) (dayOf end_ * 86400) = dayOf end_ := by unfold hiOf todOf; omega
  have h2 : dayOf (dayOf start * 86400) = dayOf start := by generalize dayOf start = a; unfold dayOf; omega
  rw [bdayRange_eq, h1, h2]

theorem eomRebalances_eq (start end_ : Int) (pre : Bool) (h0 : M0 ≤ dayOf start) :
    eomRebalances start end_ pre = sched pre isBMonthEnd (dayOf start) (hiOf start end_) := by
  unfold eomRebalances sched
  rw [bmeRangeDays_eq_filter start end_ h0]

theorem mem_eom_month (start end_ : Int) (pre : Bool) (h0 : M0 ≤ dayOf start) (k : Nat) (x : Int) :
    (x ∈ eomRebalances start end_ pre ∧ (findMonth (dayOf x)).1 = k) ↔
      (x = stamp pre (lbd k) ∧ dayOf start ≤ lbd k ∧ lbd k ≤ hiOf start end_) := by
  rw [eomRebalances_eq start end_ pre h0, mem_sched]
  constructor
  · rintro ⟨⟨d, a, b, c, rfl⟩, hm⟩
    rw [dayOf_stamp] at hm
    have hd := (isBMonthEnd_iff_lbd (by omega)).1 c
    rw [hm] at hd
    subst hd
    exact ⟨rfl, a, b⟩
  · rintro ⟨rfl, a, b⟩
    refine ⟨⟨_, a, b, isBMonthEnd_lbd k, rfl⟩, ?_⟩
    rw [dayOf_stamp, findMonth_eq (lbd_inMonth k)]

/-! ## Buy and hold: one instant, at the start's time of day -/

theorem buyAndHold_form (start : Int) :
    ∃ dx, buyAndHold start = [dx * 86400 + todOf start] ∧ dayOf start ≤ dx ∧ isBDay dx = true ∧
      (isBDay (dayOf start) = true → dx = dayOf start) := by
  unfold buyAndHold
  cases hb : isBDay (dayOf start) with
  | true =>
    refine ⟨dayOf start, ?_, Int.le_refl _, hb, fun _ => rfl⟩
    simp only [if_true]
    congr 1
    unfold dayOf todOf; omega
  | false =>
    obtain ⟨n1, n2, _⟩ := nextBDay_spec (dayOf start)
    refine ⟨nextBDay (dayOf start), by simp, by omega, n2, fun h => by cases h⟩

theorem clock_event_at (start end_ : Int) (spre spost : Bool) (hle : start ≤ end_) (pre : Bool)
    (ht : todOf start = if pre then OPEN else CLOSE)
    (dx : Int) (hdx : dayOf start ≤ dx) (hbd : isBDay dx = true) (hhi : dx ≤ hiOf start end_) :
    ∃ evs, simEvents start end_ spre spost = .ok evs ∧
      ∃ e ∈ evs, e.time = dx * 86400 + todOf start ∧ e.kind = (if pre then EvKind.marketOpen else EvKind.marketClose) := by
  rw [ht]
  exact sched_meets start end_ (fun _ _ h => h) pre spre spost hle (mem_sched.2 ⟨dx, hdx, hhi, hbd, rfl⟩)

end Qs.Cal
