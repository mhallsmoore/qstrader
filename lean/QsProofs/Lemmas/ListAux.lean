import Mathlib.Data.List.Forall2
import Mathlib.Data.List.Nodup

/-!
# Lists: what the model's dictionaries need and core/Mathlib do not state

The model stores every dictionary (`Positions`, the broker's portfolios, weights, holdings) as a list in
insertion order, looked up by `find? (key · == k)` and updated in place by
`map (fun x => if key x == k then g x else x)`.  The facts about that shape are proved here once, for any
`key` into a type with a lawful `==`: `Positions.set` (`PositionsBasic`) and `Broker.setPf` (`BrokerBasic`) are
instances, and the users of `Broker.setEntry` call these lemmas directly.  Dictionaries given as lists of pairs
(`lookup`, sorting by key) are in `AssocList`.  Before the keyed lists come facts about `Forall₂`,
`filter`/`filterMap`/`flatMap`, `foldl`, `mapM` and `Except` that are not about the model.
-/

namespace Qs

theorem forall₂_mem_left {β γ : Type} {R : β → γ → Prop} {l : List β} {r : List γ} (h : List.Forall₂ R l r)
    {x : β} (hx : x ∈ l) : ∃ y ∈ r, R x y := by
  induction h with
  | nil => cases hx
  | cons hab _ ih =>
    rcases List.mem_cons.mp hx with rfl | hx
    · exact ⟨_, List.mem_cons_self, hab⟩
    · obtain ⟨y, hy, hxy⟩ := ih hx
      exact ⟨y, List.mem_cons_of_mem _ hy, hxy⟩

theorem forall₂_mem_right {β γ : Type} {R : β → γ → Prop} {l : List β} {r : List γ} (h : List.Forall₂ R l r)
    {y : γ} (hy : y ∈ r) : ∃ x ∈ l, R x y := forall₂_mem_left h.flip hy

theorem forall₂_trans {β : Type} {R S T : β → β → Prop} {l1 l2 l3 : List β}
    (h1 : List.Forall₂ R l1 l2) (h2 : List.Forall₂ S l2 l3)
    (hT : ∀ a b c, R a b → S b c → T a c) : List.Forall₂ T l1 l3 := by
  induction h1 generalizing l3 with
  | nil => cases h2; exact .nil
  | cons hab _ ih =>
    cases h2 with
    | cons hbc h2' => exact .cons (hT _ _ _ hab hbc) (ih h2')

theorem map_eq_map_iff_forall₂ {β γ δ : Type} (f : β → δ) (g : γ → δ) (l : List β) (l' : List γ) :
    l.map f = l'.map g ↔ List.Forall₂ (fun x y => f x = g y) l l' := by
  rw [← List.forall₂_eq_eq_eq, List.forall₂_map_left_iff, List.forall₂_map_right_iff]

theorem map_filter_eq_filterMap {γ δ : Type} (p : γ → Bool) (g : γ → δ) (l : List γ) :
    (l.filter p).map g = l.filterMap fun x => if p x then some (g x) else none := by
  induction l with
  | nil => rfl
  | cons x xs ih =>
    rw [List.filter_cons, List.filterMap_cons]
    by_cases h : p x = true
    · rw [if_pos h, if_pos h, List.map_cons, ih]
    · rw [if_neg h, if_neg h, ih]

theorem filter_append_late {β : Type} (p : β → Bool) (l ext : List β) (h : ∀ x ∈ ext, p x = false) :
    (l ++ ext).filter p = l.filter p := by
  have he : ext.filter p = [] := List.filter_eq_nil_iff.2 (fun x hx => by simp [h x hx])
  rw [List.filter_append, he, List.append_nil]

theorem getLast?_filter_eq_none {β : Type} (p : β → Bool) (l : List β) :
    (l.filter p).getLast? = none ↔ ∀ y ∈ l, p y = false := by
  rw [List.getLast?_eq_none_iff, List.filter_eq_nil_iff]
  simp

theorem getLast?_filter_eq_some {β : Type} (p : β → Bool) (l : List β) (x : β) :
    (l.filter p).getLast? = some x ↔
      ∃ pre post, l = pre ++ x :: post ∧ p x = true ∧ ∀ y ∈ post, p y = false := by
  constructor
  · intro h
    obtain ⟨ys, hys⟩ := List.getLast?_eq_some_iff.1 h
    obtain ⟨l₁, l₂, rfl, -, h2⟩ := List.filter_eq_append_iff.1 hys
    obtain ⟨m₁, m₂, rfl, -, hx, hm⟩ := List.filter_eq_cons_iff.1 h2
    refine ⟨l₁ ++ m₁, m₂, by simp, hx, ?_⟩
    intro y hy
    have := List.filter_eq_nil_iff.1 hm y hy
    simpa using this
  · rintro ⟨pre, post, rfl, hx, hpost⟩
    have : post.filter p = [] := List.filter_eq_nil_iff.2 (fun y hy => by simp [hpost y hy])
    simp [List.filter_append, hx, this]

theorem foldl_inv {β ι : Type} (f : β → ι → β) (P : β → Prop) (h : ∀ x m, P x → P (f x m)) :
    ∀ (ms : List ι) (x : β), P x → P (ms.foldl f x)
  | [], _, hx => hx
  | m :: ms, x, hx => foldl_inv f P h ms _ (h x m hx)

theorem flatMap_ite {β γ : Type} (p : β → Bool) (g : β → γ) (l : List β) :
    l.flatMap (fun x => if p x then [g x] else []) = (l.filter p).map g := by
  induction l with
  | nil => rfl
  | cons x xs ih => rw [List.flatMap_cons, ih, List.filter_cons]; split <;> rfl

theorem mapM_isSome {β γ : Type} (f : β → Option γ) : ∀ (l : List β) (r : List γ), l.mapM f = some r →
    ∀ x ∈ l, (f x).isSome
  | [], _, _, x, hx => nomatch hx
  | y :: ys, r, h, x, hx => by
    rw [List.mapM_cons, Option.bind_eq_bind, Option.bind_eq_some_iff] at h
    obtain ⟨b, hb, h⟩ := h
    obtain ⟨bs, hbs, _⟩ := Option.bind_eq_some_iff.mp h
    rcases List.mem_cons.mp hx with rfl | hx'
    · rw [hb]; rfl
    · exact mapM_isSome f ys bs hbs x hx'

theorem bind_eq_ok_iff {ε β γ : Type} {x : Except ε β} {f : β → Except ε γ} {r : γ} :
    (x >>= f) = .ok r ↔ ∃ t, x = .ok t ∧ f t = .ok r := by
  cases x with
  | error e => exact ⟨fun h => (nomatch h), fun ⟨_, h, _⟩ => (nomatch h)⟩
  | ok t => exact ⟨fun h => ⟨t, rfl, h⟩, fun ⟨_, h, hf⟩ => by cases h; exact hf⟩

theorem ite_ok_eq_ok_iff {ε β : Type} {c : Prop} [Decidable c] {a q : β} {e : ε} :
    (if c then Except.ok a else Except.error e) = Except.ok q ↔ c ∧ q = a := by
  split
  · rename_i h; exact ⟨fun hh => ⟨h, (Except.ok.inj hh).symm⟩, fun hh => by rw [hh.2]⟩
  · rename_i h; exact ⟨fun hh => (nomatch hh), fun hh => absurd hh.1 h⟩

/-! ## `find?` by any predicate -/

/-- a map that `p` cannot see commutes with the lookup by `p` -/
theorem find?_map_of_blind {γ : Type} {p : γ → Bool} {g : γ → γ} (hg : ∀ x, p (g x) = p x) (l : List γ) :
    (l.map g).find? p = (l.find? p).map g := by
  rw [List.find?_map]
  exact congrArg (fun q => (l.find? q).map g) (funext hg)

theorem find?_of_unique {γ : Type} {p : γ → Bool} {xs : List γ} {v : γ} (h : ∀ b ∈ xs, p b → b = v) :
    xs.find? p = if ∃ b ∈ xs, p b then some v else none := by
  cases hf : xs.find? p with
  | none => exact (if_neg fun ⟨b, hb, hp⟩ => List.find?_eq_none.mp hf b hb hp).symm
  | some b =>
    have hb := List.mem_of_find?_eq_some hf
    rw [if_pos ⟨b, hb, List.find?_some hf⟩, h b hb (List.find?_some hf)]

/-! ## keyed lists -/

section Keyed
variable {β γ κ : Type} [BEq κ] [LawfulBEq κ] (key : β → κ)

theorem find?_key_some {l : List β} {k : κ} {e : β} (h : l.find? (fun x => key x == k) = some e) :
    e ∈ l ∧ key e = k :=
  ⟨List.mem_of_find?_eq_some h, by simpa using List.find?_some h⟩

theorem find?_key_none {l : List β} {k : κ} (h : l.find? (fun x => key x == k) = none) :
    ∀ x ∈ l, key x ≠ k := fun x hx => by simpa using List.find?_eq_none.mp h x hx

omit [LawfulBEq κ] in
theorem find?_key_isSome (l : List β) (k : κ) :
    (l.find? (fun x => key x == k)).isSome = l.any (fun x => key x == k) := by
  induction l with
  | nil => rfl
  | cons a as ih => simp only [List.find?_cons, List.any_cons]; cases key a == k <;> simp [ih]

theorem find?_key_unique {l : List β} (hnd : (l.map key).Nodup) {k : κ} {e : β}
    (hf : l.find? (fun x => key x == k) = some e) {x : β} (hx : x ∈ l) (hk : key x = k) : x = e :=
  List.inj_on_of_nodup_map hnd hx (find?_key_some key hf).1 (hk.trans (find?_key_some key hf).2.symm)

theorem flatMap_filter_perm (l : List β) (ks : List κ) (hnd : ks.Nodup) :
    (ks.flatMap fun k => l.filter fun x => key x == k).Perm (l.filter fun x => ks.contains (key x)) := by
  induction ks with
  | nil => simp
  | cons k ks ih =>
    have hn := List.nodup_cons.mp hnd
    rw [List.flatMap_cons]
    refine ((ih hn.2).append_left _).trans ?_
    -- the elements with a key in `k :: ks`: those with key `k`, then the others
    have h := List.filter_append_perm (fun x => key x == k) (l.filter fun x => (k :: ks).contains (key x))
    rw [List.filter_filter, List.filter_filter] at h
    refine (List.Perm.of_eq ?_).trans h
    congr 1 <;> refine List.filter_congr fun x _ => ?_
    · by_cases hx : key x = k <;> simp [hx]
    · by_cases hx : key x = k
      · simp [hx, hn.1]
      · simp [hx]

omit [LawfulBEq κ] in
theorem find?_forall₂ {R : β → β → Prop} (hR : ∀ a b, R a b → key b = key a)
    {l l' : List β} (h : List.Forall₂ R l l') (k : κ) :
    (l'.find? (fun e => key e == k) = none → l.find? (fun e => key e == k) = none) ∧
    (∀ e', l'.find? (fun e => key e == k) = some e' → ∃ e, l.find? (fun e => key e == k) = some e ∧ R e e') := by
  induction h with
  | nil => exact ⟨fun _ => rfl, fun _ h => (nomatch h)⟩
  | @cons x y _ _ hab _ ih =>
    simp only [List.find?_cons, hR x y hab]
    by_cases hx : (key x == k) = true
    · rw [hx]
      exact ⟨fun h => (nomatch h), fun e' he' => by cases he'; exact ⟨x, rfl, hab⟩⟩
    · rw [Bool.not_eq_true] at hx
      rw [hx]
      exact ih

omit [LawfulBEq κ] in
/-- a relation that keeps keys passes through the keyed update of both lists -/
theorem forall₂_upd_upd {R : β → β → Prop} {l l' : List β}
    (h : List.Forall₂ R l l') (hk : ∀ a b, R a b → key b = key a) (k : κ) {g g' : β → β}
    (hg : ∀ a b, R a b → R (g a) (g' b)) :
    List.Forall₂ R (l.map fun x => if key x == k then g x else x) (l'.map fun x => if key x == k then g' x else x) := by
  refine List.forall₂_map_left_iff.mpr (List.forall₂_map_right_iff.mpr (h.imp fun a b hab => ?_))
  rw [hk a b hab]
  split
  · exact hg a b hab
  · exact hab

section
variable {g : β → β}

omit [LawfulBEq κ] in
theorem find?_key_map (hg : ∀ x, key (g x) = key x) (l : List β) (k : κ) :
    (l.map g).find? (fun x => key x == k) = (l.find? (fun x => key x == k)).map g :=
  find?_map_of_blind (fun x => congrArg (· == k) (hg x)) l

omit [BEq κ] [LawfulBEq κ] in
theorem map_key_map (hg : ∀ x, key (g x) = key x) (l : List β) : (l.map g).map key = l.map key := by
  rw [List.map_map]
  exact List.map_congr_left fun x _ => hg x

end

variable (g : β → β) (k : κ)

theorem map_key_upd (hg : ∀ x, key x = k → key (g x) = k) (l : List β) :
    (l.map fun x => if key x == k then g x else x).map key = l.map key :=
  map_key_map key (fun x => by by_cases h : key x = k <;> simp [h, hg]) l

theorem map_upd_of_not_mem {l : List β} (h : k ∉ l.map key) :
    (l.map fun x => if key x == k then g x else x) = l := by
  conv_rhs => rw [← List.map_id l]
  exact List.map_congr_left fun x hx => if_neg fun e => h (List.mem_map.mpr ⟨x, hx, beq_iff_eq.mp e⟩)

theorem mem_upd {l : List β} {y : β} (h : y ∈ l.map fun x => if key x == k then g x else x) :
    y ∈ l ∨ ∃ x ∈ l, key x = k ∧ y = g x := by
  obtain ⟨x, hx, rfl⟩ := List.mem_map.mp h
  by_cases hk : key x = k
  · exact .inr ⟨x, hx, hk, by simp [hk]⟩
  · exact .inl (by simpa [hk] using hx)

theorem find?_upd_ne (hg : ∀ x, key x = k → key (g x) = k) {k' : κ} (hne : k' ≠ k) (l : List β) :
    (l.map fun x => if key x == k then g x else x).find? (fun x => key x == k') =
      l.find? (fun x => key x == k') := by
  induction l with
  | nil => rfl
  | cons a as ih =>
    rw [List.map_cons, List.find?_cons, List.find?_cons, ih]
    by_cases h : key a = k
    · rw [if_pos (beq_iff_eq.mpr h), beq_eq_false_iff_ne.mpr fun e => hne (e.symm.trans (hg a h)),
        beq_eq_false_iff_ne.mpr fun e => hne (e.symm.trans h)]
    · rw [if_neg (fun e => h (beq_iff_eq.mp e))]

theorem find?_upd_self (hg : ∀ x, key x = k → key (g x) = k) (l : List β) :
    (l.map fun x => if key x == k then g x else x).find? (fun x => key x == k) =
      (l.find? (fun x => key x == k)).map g := by
  induction l with
  | nil => rfl
  | cons a as ih =>
    rw [List.map_cons, List.find?_cons, List.find?_cons, ih]
    by_cases h : key a = k
    · rw [if_pos (beq_iff_eq.mpr h), beq_iff_eq.mpr (hg a h), beq_iff_eq.mpr h]; rfl
    · rw [if_neg (fun e => h (beq_iff_eq.mp e)), beq_eq_false_iff_ne.mpr h]

theorem map_upd_of_unique [DecidableEq κ] {l : List β} (hnd : (l.map key).Nodup) {e : β}
    (hf : l.find? (fun x => key x == k) = some e) (f : β → γ) :
    (l.map fun x => if key x == k then g x else x).map f =
      l.map (fun x => if key x = k then f (g e) else f x) := by
  rw [List.map_map]
  refine List.map_congr_left fun x hx => ?_
  by_cases h : key x = k
  · rw [Function.comp_apply, if_pos (beq_iff_eq.mpr h), if_pos h, find?_key_unique key hnd hf hx h]
  · rw [Function.comp_apply, if_neg (fun e => h (beq_iff_eq.mp e)), if_neg h]

/-- an update that `f` cannot see at the found entry leaves `map f` alone -/
theorem map_upd_same [DecidableEq κ] {l : List β} (hnd : (l.map key).Nodup) {e : β}
    (hf : l.find? (fun x => key x == k) = some e) (f : β → γ) (hfe : f (g e) = f e) :
    (l.map fun x => if key x == k then g x else x).map f = l.map f := by
  rw [map_upd_of_unique key g k hnd hf f]
  refine List.map_congr_left fun x hx => ?_
  split
  · rename_i h; rw [hfe, find?_key_unique key hnd hf hx h]
  · rfl

/-- `map_upd_of_unique` as a splitting of the list at the found entry -/
theorem upd_split {l : List β} (hnd : (l.map key).Nodup) {e : β}
    (hf : l.find? (fun x => key x == k) = some e) :
    ∃ l1 l2, l = l1 ++ e :: l2 ∧ (l.map fun x => if key x == k then g x else x) = l1 ++ g e :: l2 ∧
      (∀ x ∈ l1, key x ≠ k) ∧ (∀ x ∈ l2, key x ≠ k) ∧ key e = k := by
  have hk := (find?_key_some key hf).2
  obtain ⟨_, l1, l2, rfl, h1⟩ := List.find?_eq_some_iff_append.mp hf
  have h1' : ∀ x ∈ l1, key x ≠ k := fun x hx => by simpa using h1 x hx
  have h2' : ∀ x ∈ l2, key x ≠ k := fun x hx hxk =>
    have : x = e := find?_key_unique key hnd hf (by simp [hx]) hxk
    (List.nodup_cons.mp (List.nodup_append.mp (by simpa using hnd)).2.1).1
      (this ▸ List.mem_map_of_mem hx)
  refine ⟨l1, l2, rfl, ?_, h1', h2', hk⟩
  have hid : ∀ l' : List β, (∀ x ∈ l', key x ≠ k) → (l'.map fun x => if key x == k then g x else x) = l' :=
    fun l' hl' => map_upd_of_not_mem key g k fun hm => by
      obtain ⟨x, hx, e⟩ := List.mem_map.mp hm; exact hl' x hx e
  rw [List.map_append, List.map_cons, hid l1 h1', hid l2 h2', if_pos (beq_iff_eq.mpr hk)]

theorem forall₂_upd {R : β → β → Prop} {l : List β}
    (hnd : (l.map key).Nodup) {e : β} (hf : l.find? (fun x => key x == k) = some e)
    (hrefl : ∀ x ∈ l, key x ≠ k → R x x) (he : R e (g e)) :
    List.Forall₂ R l (l.map fun x => if key x == k then g x else x) := by
  rw [List.forall₂_map_right_iff, List.forall₂_same]
  intro x hx
  by_cases h : key x = k
  · rw [if_pos (beq_iff_eq.mpr h), find?_key_unique key hnd hf hx h]; exact he
  · rw [if_neg (fun h' => h (beq_iff_eq.mp h'))]; exact hrefl x hx h

end Keyed

end Qs
