import QsProofs.Lemmas.RefinementRel
import QsProofs.Lemmas.Session

/-!
# C08: the session against the reference, event by event

The reference gets a name for what each operation of the session does (`refExecute` … `refEvents`); `refDay` is two
events.  Each operation is compared with its counterpart by one `Sim` lemma.  Session and reference can only disagree
on definedness where equity is read from an unquoted holding (sizing, the equity record): `ReadsQuoted` says the book
is quoted there; it holds when the reference is defined at the event and when the book lies in a set of quoted assets.
-/

set_option linter.unusedSectionVars false

namespace Qs.Ref
open NumOps

section Reference
variable {α : Type} [Add α] [Sub α] [Mul α] [Div α] [Neg α] [NumOps α]

/-- `ExecutionHandler.__call__` on the reference: in exchange hours every order fills at once, outside them the
orders join the queue -/
def refExecute (fee : FeeModel α) (px : Px α) (t : Int) (st : RefState α) (os : List (String × Int)) :
    Option (RefState α) :=
  if isOpen t then refFillAll fee px t st os else some { st with pending := st.pending ++ os }

/-- `QuantTradingSystem.__call__` on the reference -/
def refRebalance (cfg : SessionCfg α) (w : List (String × α)) (px : Px α) (t : Int) (st : RefState α) :
    Option (RefState α) :=
  (refOrders cfg w px t st).bind fun os =>
    (refExecute cfg.fee px t st os).map fun st' => { st' with allocDates := st'.allocDates ++ [t] }

def refRebStage (cfg : SessionCfg α) (w : List (String × α)) (px : Px α) (sched : List Int) (t : Int)
    (st : RefState α) : Option (RefState α) :=
  if burnOk cfg t && sched.contains t then refRebalance cfg w px t st else some st

theorem refExecute_open (fee : FeeModel α) (px : Px α) {t : Int} (st : RefState α) (os : List (String × Int))
    (ho : isOpen t = true) : refExecute fee px t st os = refFillAll fee px t st os := if_pos ho

theorem refExecute_closed (fee : FeeModel α) (px : Px α) {t : Int} (st : RefState α) (os : List (String × Int))
    (hc : isOpen t = false) : refExecute fee px t st os = some { st with pending := st.pending ++ os } :=
  if_neg (by rw [hc]; exact Bool.false_ne_true)

theorem refRebalance_eq_some {cfg : SessionCfg α} {w : List (String × α)} {px : Px α} {t : Int} {st st' : RefState α}
    (h : refRebalance cfg w px t st = some st') :
    ∃ os r, refOrders cfg w px t st = some os ∧ refExecute cfg.fee px t st os = some r ∧
      st' = { r with allocDates := r.allocDates ++ [t] } := by
  obtain ⟨os, hos, h⟩ := Option.bind_eq_some_iff.mp h
  obtain ⟨r, hr, rfl⟩ := Option.map_eq_some_iff.mp h
  exact ⟨os, r, hos, hr, rfl⟩

theorem refExecute_frame {fee : FeeModel α} {px : Px α} {t : Int} {st st' : RefState α} {os : List (String × Int)}
    (h : refExecute fee px t st os = some st') :
    st'.equity = st.equity ∧ st'.allocDates = st.allocDates ∧ (isOpen t = true → st'.pending = st.pending) ∧
      (∀ k ∈ st'.hold.map (·.1), k ∈ st.hold.map (·.1) ∨ k ∈ os.map (·.1)) ∧
      (∀ k ∈ st'.pending.map (·.1), k ∈ st.pending.map (·.1) ∨ k ∈ os.map (·.1)) := by
  cases ho : isOpen t with
  | true =>
    rw [refExecute_open _ _ _ _ ho] at h
    obtain ⟨h1, h2, h3, h4⟩ := refFillAll_frame h
    exact ⟨h2, h3, fun _ => h1, h4, fun k hk => Or.inl (h1 ▸ hk)⟩
  | false =>
    cases (refExecute_closed fee px st os ho).symm.trans h
    exact ⟨rfl, rfl, (fun h => nomatch h), fun k hk => Or.inl hk, fun k hk => by
      simpa only [List.map_append, List.mem_append] using hk⟩

/-- `executeOrders` submits one order and updates, then goes on: the reference in that shape -/
theorem refExecute_cons (fee : FeeModel α) (px : Px α) (t : Int) (st : RefState α) (o : String × Int)
    (os : List (String × Int)) (hp : isOpen t = true → st.pending = []) :
    refExecute fee px t st (o :: os) =
      (refUpdate fee px t { st with pending := st.pending ++ [o] }).bind fun st1 => refExecute fee px t st1 os := by
  unfold refExecute refUpdate
  cases ho : isOpen t with
  | false => simp
  | true =>
    have hst : ({ ({ st with pending := st.pending ++ [o] } : RefState α) with pending := [] } : RefState α) = st := by
      cases st; simp only at hp; simp only [hp ho]
    simp only [if_true, hp ho, List.nil_append, sellsFirst_single, hst, refFillAll, Option.bind_some,
      Option.bind_assoc]

theorem refRebalance_frame {cfg : SessionCfg α} {w : List (String × α)} {px : Px α} {t : Int} {st st' : RefState α}
    (h : refRebalance cfg w px t st = some st') :
    st'.equity = st.equity ∧ st'.allocDates = st.allocDates ++ [t] := by
  obtain ⟨os, r, -, hr, rfl⟩ := refRebalance_eq_some h
  obtain ⟨h1, h2, -⟩ := refExecute_frame hr
  exact ⟨h1, by rw [← h2]⟩

theorem refRebalance_pending {cfg : SessionCfg α} {w : List (String × α)} {px : Px α} {t : Int} {st st' : RefState α}
    (h : refRebalance cfg w px t st = some st') (ho : isOpen t = true) : st'.pending = st.pending := by
  obtain ⟨os, r, -, hr, rfl⟩ := refRebalance_eq_some h
  obtain ⟨-, -, hpend, -⟩ := refExecute_frame hr
  exact hpend ho

theorem refEquity_quoted {px : Px α} {t : Int} {st : RefState α} (h : (refEquity px t st).isSome) :
    ∀ x ∈ st.hold, (px t x.1).isSome := by
  unfold refEquity at h
  cases hm : st.hold.mapM (fun (x : String × Int) => match x with | (a, q) => (px t a).map fun p => p * ofInt q) with
  | none => rw [hm] at h; simp at h
  | some mvs => exact fun x hx => by simpa using mapM_isSome _ st.hold mvs hm x hx

theorem refOrders_quoted {cfg : SessionCfg α} {w : List (String × α)} {px : Px α} {t : Int} {st : RefState α}
    (h : (refOrders cfg w px t st).isSome) : ∀ x ∈ st.hold, (px t x.1).isSome := by
  refine refEquity_quoted ?_
  unfold refOrders at h
  cases he : refEquity px t st with
  | none => rw [he] at h; cases h
  | some v => rfl

end Reference

section
variable {α : Type} [Field α] [LinearOrder α] [IsStrictOrderedRing α] [FloorRing α] [NumOps α] [LawfulNumOps α]

/-- `refOrders` with the session's choice of sizer named -/
theorem refOrders_eq (cfg : SessionCfg α) (w : List (String × α)) (px : Px α) (t : Int) (st : RefState α) :
    refOrders cfg w px t st = (refEquity px t st).bind fun v =>
      match Lift.sizerOf cfg v (px t) (fullWeightVector st.hold (cfg.uni.assets t) w) with
      | .error _ => none
      | .ok tq => some (rebalanceOrders tq st.hold) := by
  unfold refOrders Lift.sizerOf
  cases refEquity px t st <;> rfl

def refEqStage (cfg : SessionCfg α) (px : Px α) (ev : SimEvent) (st : RefState α) : Option (RefState α) :=
  if ev.kind = .marketClose then refCloseEq cfg px ev.time st else some st

/-- one simulation event on the reference: the broker update, the scheduled rebalance, the equity record -/
def refEvent (cfg : SessionCfg α) (w : List (String × α)) (px : Px α) (sched : List Int) (st : RefState α)
    (ev : SimEvent) : Option (RefState α) :=
  ((refUpdate cfg.fee px ev.time st).bind (refRebStage cfg w px sched ev.time)).bind (refEqStage cfg px ev)

def refEvents (cfg : SessionCfg α) (w : List (String × α)) (px : Px α) (sched : List Int) :
    RefState α → List SimEvent → Option (RefState α)
  | st, [] => some st
  | st, ev :: evs => (refEvent cfg w px sched st ev).bind fun st' => refEvents cfg w px sched st' evs

theorem submitOrder_brm (fee : FeeModel α) (px : Px α) (b : Broker α) (st : RefState α) (t : Int) (o : Order)
    (h : BRM fee px t b st) (hq : o.qty ≠ 0) :
    ∃ b', b.submitOrder PORTFOLIO_ID o = (b', none) ∧
      BRM fee px t b' { st with pending := st.pending ++ [(o.asset, o.qty)] } := by
  obtain ⟨⟨⟨e, he, her⟩, hclock, hfee, hlog⟩, hm⟩ := h
  rw [submitOrder_some (find?_single he her.id)]
  have hent : (b.setEntry { e with queue := e.queue ++ [o] }).entries = [{ e with queue := e.queue ++ [o] }] := by
    simp [Broker.setEntry, he]
  refine ⟨_, rfl, ⟨⟨_, hent, her.id, her.cash, her.wf, her.hold, her.nz, ?_, fun x hx => ?_⟩, hclock, hfee, hlog⟩,
    (markedQ_single hent).2 ((markedQ_single he).1 hm)⟩
  · simp only [List.map_append, List.map_cons, List.map_nil, her.queue]
  · rcases List.mem_append.mp hx with hx | hx
    exacts [her.pnz x hx, List.mem_singleton.mp hx ▸ hq]

theorem executeOrders_rel (fee : FeeModel α) (px : Px α) (hpos : ∀ t a p, px t a = some p → 0 < p) (t : Int) :
    ∀ (orders : List (String × Int)) (b : Broker α) (n : Nat) (st : RefState α),
    BRM fee px t b st → (isOpen t = true → st.pending = []) → (∀ o ∈ orders, o.2 ≠ 0) →
    Sim (BRM fee px t) ((executeOrders px t b n orders).1, (executeOrders px t b n orders).2.2)
      (refExecute fee px t st orders)
  | [], b, n, st, h, _, _ => by
    cases ho : isOpen t with
    | true => rw [refExecute_open _ _ _ _ ho]; exact ⟨rfl, h⟩
    | false => rw [refExecute_closed _ _ _ _ ho, List.append_nil]; exact ⟨rfl, h⟩
  | (a, q) :: rest, b, n, st, h, hp, hnz => by
    obtain ⟨b1, hsub, h1⟩ := submitOrder_brm fee px b st t { id := n, asset := a, qty := q } h (hnz _ List.mem_cons_self)
    rw [refExecute_cons fee px t st (a, q) rest hp]
    refine (update_rel fee px hpos b1 _ t t h1.1 (le_refl _)).bind
      (k := fun b2 => ((executeOrders px t b2 (n + 1) rest).1, (executeOrders px t b2 (n + 1) rest).2.2))
      (fun _ _ hx => by rw [executeOrders, hsub]; dsimp only; rw [hx]; exact Option.some_ne_none _)
      (fun _ hx => by rw [executeOrders, hsub]; dsimp only; rw [hx]) ?_
    · intro r hr hbrm
      refine executeOrders_rel fee px hpos t rest _ (n + 1) r hbrm (fun ho => ?_)
        (fun o ho => hnz o (List.mem_cons_of_mem _ ho))
      rw [refUpdate_open _ _ _ ho] at hr
      exact (refFillAll_frame hr).1

def SRM (cfg : SessionCfg α) (px : Px α) (t : Int) (s : Session α) (st : RefState α) : Prop :=
  SR cfg s st t ∧ MarkedQ px t s.broker

/-- `BR` reads neither `equity` nor `allocDates`: states that differ only there are represented alike -/
theorem BR.congr {fee : FeeModel α} {b : Broker α} {st st' : RefState α} {t : Int}
    (h : BR fee b st t) (hc : st'.cash = st.cash) (hh : st'.hold = st.hold)
    (hp : st'.pending = st.pending) (hf : st'.fills = st.fills) : BR fee b st' t := by
  obtain ⟨⟨e, he, her⟩, h2, h3, h4⟩ := h
  exact ⟨⟨e, he, ⟨her.id, by rw [hc]; exact her.cash, her.wf, by rw [hh]; exact her.hold,
    by rw [hh]; exact her.nz, by rw [hp]; exact her.queue, by rw [hp]; exact her.pnz⟩⟩, h2, h3, by rw [hf]; exact h4⟩

/-- any alpha model; equity is read, so the book has to be quoted (`hq`).  What a rebalance does to the rest of the
session is `Sess.rebalanceAt_frame`. -/
theorem rebalanceAt_rel (cfg : SessionCfg α) (alpha : Alpha α) (px : Px α)
    (hpos : ∀ t a p, px t a = some p → 0 < p) (t : Int) (s : Session α) (st : RefState α)
    (h : BRM cfg.fee px t s.broker st) (hp : isOpen t = true → st.pending = [])
    (hq : ∀ x ∈ st.hold, (px t x.1).isSome) :
    Sim (fun s' st' => BRM cfg.fee px t s'.broker st') (rebalanceAt cfg alpha px t s)
      (refRebalance cfg (alpha t s.signals (cfg.uni.assets t)) px t st) := by
  have hheld := heldOf_sim cfg.fee s.broker st t h.1
  have hE := (equity_sim cfg.fee px s.broker st t h.1 (h.marked hq)).1
  rw [Sess.rebalanceAt_eq, refRebalance, refOrders_eq, hE, Option.bind_some, Sess.recordedWeights, hheld]
  simp only [fixedWeight]
  -- both sides branch on the same sizer result
  generalize Lift.sizerOf cfg (equityOf s.broker) (px t)
      (fullWeightVector st.hold (cfg.uni.assets t) (alpha t s.signals (cfg.uni.assets t))) = target
  cases target with
  | error e => exact fun h => nomatch h
  | ok tq =>
    have hx := executeOrders_rel cfg.fee px hpos t (rebalanceOrders tq st.hold) s.broker s.nextId st h hp
      (fun o ho => rebalanceOrders_ne_zero ho)
    simp only [Option.bind_some]
    cases hr : refExecute cfg.fee px t st (rebalanceOrders tq st.hold) with
    | none => rw [hr] at hx; exact hx
    | some r => rw [hr] at hx; exact ⟨hx.1, hx.2.1.congr rfl rfl rfl rfl, hx.2.2⟩

theorem refOrders_keys {cfg : SessionCfg α} {w : List (String × α)} {px : Px α} {t : Int} {st : RefState α}
    {os : List (String × Int)} (h : refOrders cfg w px t st = some os) :
    ∀ k ∈ os.map (·.1), k ∈ st.hold.map (·.1) ∨ k ∈ cfg.uni.assets t ∨ k ∈ w.map (·.1) := by
  rw [refOrders_eq] at h
  obtain ⟨v, -, h⟩ := Option.bind_eq_some_iff.mp h
  split at h
  · cases h
  · rename_i tq htq
    cases h
    exact Lift.sizerOf_orders_keys cfg v px t st.hold w tq htq

theorem refCloseEq_hold {cfg : SessionCfg α} {px : Px α} {t : Int} {st st' : RefState α}
    (h : refCloseEq cfg px t st = some st') : st'.hold = st.hold ∧ st'.pending = st.pending := by
  unfold refCloseEq at h
  split at h
  · obtain ⟨v, _, h⟩ := Option.bind_eq_some_iff.mp h
    cases h; exact ⟨rfl, rfl⟩
  · cases h; exact ⟨rfl, rfl⟩

section assets
variable (cfg : SessionCfg α) (w : List (String × α)) (px : Px α) (A : String → Prop)
  (hA : ∀ t a, a ∈ cfg.uni.assets t → A a) (hAw : ∀ a ∈ w.map (·.1), A a)

include hA hAw

theorem refRebalance_assets {t : Int} {st st' : RefState α} (h : refRebalance cfg w px t st = some st')
    (has : Assets A st) : Assets A st' := by
  obtain ⟨os, r, hos, hr, rfl⟩ := refRebalance_eq_some h
  obtain ⟨-, -, -, h4, h5⟩ := refExecute_frame hr
  have hos' : ∀ k ∈ os.map (·.1), A k := fun k hk => by
    rcases refOrders_keys hos k hk with h | h | h
    exacts [has.1 k h, hA t k h, hAw k h]
  exact ⟨fun k hk => (h4 k hk).elim (has.1 k) (hos' k), fun k hk => (h5 k hk).elim (has.2 k) (hos' k)⟩

theorem refRebStage_assets {sched : List Int} {t : Int} {st st3 : RefState α}
    (h : (refUpdate cfg.fee px t st).bind (refRebStage cfg w px sched t) = some st3) (has : Assets A st) :
    Assets A st3 := by
  obtain ⟨st1, h1, h3⟩ := Option.bind_eq_some_iff.mp h
  have has1 := refUpdate_assets px A h1 has
  unfold refRebStage at h3
  split at h3
  · exact refRebalance_assets cfg w px A hA hAw h3 has1
  · cases h3; exact has1

theorem refEvent_assets {sched : List Int} {st st' : RefState α} {ev : SimEvent}
    (h : refEvent cfg w px sched st ev = some st') (has : Assets A st) : Assets A st' := by
  obtain ⟨st3, h3, h⟩ := Option.bind_eq_some_iff.mp h
  have has3 := refRebStage_assets cfg w px A hA hAw h3 has
  unfold refEqStage at h
  split at h
  · rw [Assets, (refCloseEq_hold h).1, (refCloseEq_hold h).2]; exact has3
  · cases h; exact has3

end assets

/-- the book is quoted wherever the reference reads equity at event `ev`: after the update if a rebalance is due, after
the rebalance stage if equity is recorded -/
def ReadsQuoted (cfg : SessionCfg α) (w : List (String × α)) (px : Px α) (sched : List Int) (st : RefState α)
    (ev : SimEvent) : Prop :=
  (Sess.isReb cfg sched ev.time = true → ∀ st1, refUpdate cfg.fee px ev.time st = some st1 →
    ∀ x ∈ st1.hold, (px ev.time x.1).isSome) ∧
  (Sess.isEq cfg ev = true →
    ∀ st3, (refUpdate cfg.fee px ev.time st).bind (refRebStage cfg w px sched ev.time) = some st3 →
      ∀ x ∈ st3.hold, (px ev.time x.1).isSome)

theorem refRebStage_reads {cfg : SessionCfg α} {w : List (String × α)} {px : Px α} {sched : List Int} {t : Int}
    {st : RefState α} {g : RefState α → Option (RefState α)} (h : ((refRebStage cfg w px sched t st).bind g).isSome)
    (hr : Sess.isReb cfg sched t = true) : (refOrders cfg w px t st).isSome := by
  rw [refRebStage, Sess.isReb_def, if_pos hr, refRebalance] at h
  cases ho : refOrders cfg w px t st with
  | none => rw [ho] at h; cases h
  | some os => rfl

theorem refEqStage_reads {cfg : SessionCfg α} {px : Px α} {ev : SimEvent} {st : RefState α}
    (h : (refEqStage cfg px ev st).isSome) (he : Sess.isEq cfg ev = true) : (refEquity px ev.time st).isSome := by
  rw [Sess.isEq_iff] at he
  rw [refEqStage, refCloseEq, if_pos he.1, if_pos he.2] at h
  cases hv : refEquity px ev.time st with
  | none => rw [hv] at h; cases h
  | some v => rfl

theorem readsQuoted_of_isSome {cfg : SessionCfg α} {w : List (String × α)} {px : Px α} {sched : List Int}
    {st : RefState α} {ev : SimEvent} (h : (refEvent cfg w px sched st ev).isSome) :
    ReadsQuoted cfg w px sched st ev := by
  unfold refEvent at h
  constructor
  · intro hr st1 h1
    rw [h1, Option.bind_some] at h
    exact refOrders_quoted (cfg := cfg) (w := w) (refRebStage_reads h hr)
  · intro he st3 h3
    rw [h3, Option.bind_some] at h
    exact refEquity_quoted (refEqStage_reads h he)

theorem readsQuoted_of_assets (cfg : SessionCfg α) (w : List (String × α)) (px : Px α) (A : String → Prop)
    (hA : ∀ t a, a ∈ cfg.uni.assets t → A a) (hAw : ∀ a ∈ w.map (·.1), A a) {sched : List Int}
    {st : RefState α} {ev : SimEvent} (has : Assets A st) (hq : ∀ a, A a → (px ev.time a).isSome) :
    ReadsQuoted cfg w px sched st ev :=
  ⟨fun _ _ h1 x hx => hq _ ((refUpdate_assets px A h1 has).1 _ (List.mem_map.mpr ⟨x, hx, rfl⟩)),
   fun _ _ h3 x hx => hq _ ((refRebStage_assets cfg w px A hA hAw h3 has).1 _ (List.mem_map.mpr ⟨x, hx, rfl⟩))⟩

theorem updStage_rel (cfg : SessionCfg α) (px : Px α) (hpos : ∀ t a p, px t a = some p → 0 < p)
    (s : Session α) (st : RefState α) (t0 : Int) (ev : SimEvent) (hsr : SR cfg s st t0) (ht : t0 ≤ ev.time) :
    Sim (SRM cfg px ev.time) (Sess.updStage px ev s) (refUpdate cfg.fee px ev.time st) := by
  have h := update_rel cfg.fee px hpos s.broker st t0 ev.time hsr.br ht
  cases hy : refUpdate cfg.fee px ev.time st with
  | none => rw [hy] at h; exact h
  | some st1 =>
    rw [hy] at h
    obtain ⟨f1, f2, _⟩ := refUpdate_frame hy
    exact ⟨h.1, ⟨h.2.1, hsr.eq.trans f1.symm, hsr.alloc.trans f2.symm, hsr.sig⟩, h.2.2⟩

theorem rebStage_rel (cfg : SessionCfg α) (w : List (String × α)) (px : Px α)
    (hpos : ∀ t a p, px t a = some p → 0 < p) (sched : List Int) (t : Int) (s : Session α) (st : RefState α)
    (h : SRM cfg px t s st) (hp : isOpen t = true → st.pending = [])
    (hq : Sess.isReb cfg sched t = true → ∀ x ∈ st.hold, (px t x.1).isSome) :
    Sim (SRM cfg px t) (Sess.rebStage cfg (fixedAlpha w) px sched t s) (refRebStage cfg w px sched t st) := by
  rw [refRebStage, Sess.isReb_def]
  cases hr : Sess.isReb cfg sched t
  swap
  · rw [Sess.rebStage_pos hr, if_pos rfl]
    obtain ⟨-, hal, heq, hsig⟩ := Sess.rebalanceAt_frame cfg (fixedAlpha w) px t s
    exact (rebalanceAt_rel cfg (fixedAlpha w) px hpos t s st ⟨h.1.br, h.2⟩ hp (hq hr)).mono fun r hr hb =>
      ⟨⟨hb.1, heq.trans (h.1.eq.trans (refRebalance_frame hr).1.symm),
        by rw [hal, (refRebalance_frame hr).2, ← h.1.alloc]; simp, hsig.trans h.1.sig⟩, hb.2⟩
  · rw [Sess.rebStage_neg hr, if_neg Bool.false_ne_true]
    exact ⟨rfl, h⟩

theorem eqStage_rel (cfg : SessionCfg α) (px : Px α) (ev : SimEvent) (s : Session α) (st : RefState α)
    (h : SRM cfg px ev.time s st) (hq : Sess.isEq cfg ev = true → ∀ x ∈ st.hold, (px ev.time x.1).isSome) :
    Sim (SRM cfg px ev.time) (Sess.eqStage cfg ev s) (refEqStage cfg px ev st) := by
  obtain ⟨⟨hbr, heq, hal, hsig⟩, hm⟩ := h
  unfold Sess.eqStage refEqStage refCloseEq
  by_cases he : Sess.isEq cfg ev = true
  · obtain ⟨hre, hacc⟩ := equity_sim cfg.fee px _ st ev.time hbr (BRM.marked ⟨hbr, hm⟩ (hq he))
    rw [if_pos he, if_pos (Sess.isEq_iff.1 he).1, if_pos (Sess.isEq_iff.1 he).2, hre]
    exact ⟨rfl, ⟨hbr.congr rfl rfl rfl rfl, by show _ ++ _ = st.equity ++ _; rw [heq, hacc], hal, hsig⟩, hm⟩
  · rw [if_neg he]
    rw [Sess.isEq_iff, not_and] at he
    split
    · rw [if_neg (he ‹_›)]; exact ⟨rfl, ⟨hbr, heq, hal, hsig⟩, hm⟩
    · exact ⟨rfl, ⟨hbr, heq, hal, hsig⟩, hm⟩

theorem stages_rel (cfg : SessionCfg α) (w : List (String × α)) (px : Px α)
    (hpos : ∀ t a p, px t a = some p → 0 < p) (sched : List Int)
    (s : Session α) (st : RefState α) (t0 : Int) (ev : SimEvent) (hsr : SR cfg s st t0) (ht : t0 ≤ ev.time)
    (hq : Sess.isReb cfg sched ev.time = true → ∀ st1, refUpdate cfg.fee px ev.time st = some st1 →
      ∀ x ∈ st1.hold, (px ev.time x.1).isSome) :
    Sim (SRM cfg px ev.time)
      (Sess.andThen (Sess.andThen (Sess.updStage px ev s) (Sess.sigStage cfg px ev))
        (Sess.rebStage cfg (fixedAlpha w) px sched ev.time))
      ((refUpdate cfg.fee px ev.time st).bind (refRebStage cfg w px sched ev.time)) := by
  refine ((updStage_rel cfg px hpos s st t0 ev hsr ht).andThen_skip fun r hr => ?_).andThen fun st1 h1 hs1 =>
    have ⟨_, _, hpend, _⟩ := refUpdate_frame h1
    rebStage_rel cfg w px hpos sched ev.time _ st1 hs1 hpend fun hr => hq hr st1 h1
  unfold Sess.sigStage; simp only [hr.1.sig]

theorem step_rel (cfg : SessionCfg α) (w : List (String × α)) (px : Px α)
    (hpos : ∀ t a p, px t a = some p → 0 < p) (sched : List Int)
    (s : Session α) (st : RefState α) (t0 : Int) (ev : SimEvent) (hsr : SR cfg s st t0) (ht : t0 ≤ ev.time)
    (hq : ReadsQuoted cfg w px sched st ev) :
    Sim (SRM cfg px ev.time) (s.step cfg (fixedAlpha w) px sched ev) (refEvent cfg w px sched st ev) := by
  rw [Sess.step_stages]
  exact (stages_rel cfg w px hpos sched s st t0 ev hsr ht hq.1).andThen fun st3 h3 hs3 =>
    eqStage_rel cfg px ev _ st3 hs3 fun he => hq.2 he st3 h3

/-- the book is quoted where equity is read because the reference is defined, or because it stays in a set `A` of
assets quoted at every event -/
theorem runEvents_refEvents (cfg : SessionCfg α) (w : List (String × α)) (px : Px α)
    (hpos : ∀ t a p, px t a = some p → 0 < p) (sched : List Int) (A : String → Prop)
    (hA : ∀ t a, a ∈ cfg.uni.assets t → A a) (hAw : ∀ a ∈ w.map (·.1), A a) :
    ∀ (evs : List SimEvent) (s : Session α) (st : RefState α) (t0 : Int), SR cfg s st t0 →
    (t0 :: evs.map (·.time)).Pairwise (· ≤ ·) →
    ((refEvents cfg w px sched st evs).isSome ∨
      (Assets A st ∧ ∀ ev ∈ evs, ∀ a, A a → (px ev.time a).isSome)) →
    Sim (fun s' st' => ∃ t', SR cfg s' st' t') (Session.runEvents cfg (fixedAlpha w) px sched s evs)
      (refEvents cfg w px sched st evs)
  | [], s, st, t0, hsr, _, _ => ⟨rfl, t0, hsr⟩
  | ev :: evs, s, st, t0, hsr, hpw, hq => by
    rw [List.map_cons, List.pairwise_cons] at hpw
    rw [refEvents] at hq ⊢
    rw [Session.runEvents]
    refine (step_rel cfg w px hpos sched s st t0 ev hsr (hpw.1 _ List.mem_cons_self) ?_).bind
      (k := fun s1 => Session.runEvents cfg (fixedAlpha w) px sched s1 evs)
      (fun _ _ hx => by rw [hx]; exact Option.some_ne_none _) (fun _ hx => by rw [hx]) ?_
    · rcases hq with hq | ⟨has, hA'⟩
      · refine readsQuoted_of_isSome ?_
        cases he : refEvent cfg w px sched st ev with
        | none => rw [he] at hq; cases hq
        | some v => rfl
      · exact readsQuoted_of_assets cfg w px A hA hAw has (hA' ev List.mem_cons_self)
    · intro st1 hst1 hsr1
      refine runEvents_refEvents cfg w px hpos sched A hA hAw evs _ st1 ev.time hsr1.1 hpw.2 ?_
      rcases hq with hq | ⟨has, hA'⟩
      · left; rw [hst1] at hq; exact hq
      · exact Or.inr ⟨refEvent_assets cfg w px A hA hAw hst1 has, fun e he => hA' e (List.mem_cons_of_mem _ he)⟩

/-! ## the events of a business day are `refDay` -/

theorem refOpenReb_eq (cfg : SessionCfg α) (w : List (String × α)) (px : Px α) (sched : List Int) (t : Int)
    (st : RefState α) (ho : isOpen t = true) :
    refOpenReb cfg w px sched t st = refRebStage cfg w px sched t st := by
  unfold refOpenReb refRebStage refRebalance refExecute
  simp only [ho, if_true]
  split
  · cases refOrders cfg w px t st with
    | none => rfl
    | some os =>
      simp only [Option.bind_eq_bind, Option.bind_some]
      cases refFillAll cfg.fee px t st os <;> rfl
  · rfl

theorem refCloseReb_eq (cfg : SessionCfg α) (w : List (String × α)) (px : Px α) (sched : List Int) (t : Int)
    (st : RefState α) (ho : isOpen t = false) :
    refCloseReb cfg w px sched t st = refRebStage cfg w px sched t st := by
  unfold refCloseReb refRebStage refRebalance refExecute
  simp only [ho, Bool.false_eq_true, if_false]
  split
  · cases refOrders cfg w px t st <;> rfl
  · rfl

theorem refEvent_open (cfg : SessionCfg α) (w : List (String × α)) (px : Px α) (sched : List Int) (t : Int)
    (st : RefState α) (ho : isOpen t = true) :
    refEvent cfg w px sched st ⟨t, .marketOpen⟩ =
      (refFillAll cfg.fee px t { st with pending := [] }
          (sellsFirst (fun (o : String × Int) => decide (o.2 < 0)) st.pending)).bind
        (refOpenReb cfg w px sched t) := by
  unfold refEvent refUpdate refEqStage
  simp only [ho, if_true, reduceCtorEq, if_false, ← funext (refOpenReb_eq cfg w px sched t · ho), Option.bind_fun_some]

theorem refEvent_close (cfg : SessionCfg α) (w : List (String × α)) (px : Px α) (sched : List Int) (t : Int)
    (st : RefState α) (ho : isOpen t = false) :
    refEvent cfg w px sched st ⟨t, .marketClose⟩ =
      (refCloseReb cfg w px sched t st).bind (refCloseEq cfg px t) := by
  unfold refEvent refUpdate refEqStage
  simp only [ho, Bool.false_eq_true, if_false, if_true, ← refCloseReb_eq cfg w px sched t _ ho, Option.bind_some]

theorem refOpenReb_pending {cfg : SessionCfg α} {w : List (String × α)} {px : Px α} {sched : List Int} {t : Int}
    {st st' : RefState α} (ho : isOpen t = true) (h : refOpenReb cfg w px sched t st = some st') :
    st'.pending = st.pending := by
  rw [refOpenReb_eq _ _ _ _ _ _ ho, refRebStage] at h
  split at h
  · exact refRebalance_pending h ho
  · cases h; rfl

theorem refDay_eq_events (cfg : SessionCfg α) (w : List (String × α)) (px : Px α) (sched : List Int)
    (st : RefState α) {d : Int} (hd : weekday d ≤ 4) :
    refDay cfg w px sched st d =
      (refEvent cfg w px sched st ⟨d * 86400 + OPEN, .marketOpen⟩).bind fun st2 =>
        refEvent cfg w px sched st2 ⟨d * 86400 + CLOSE, .marketClose⟩ := by
  rw [refDay_eq, refEvent_open _ _ _ _ _ _ (isOpen_open d (decide_eq_true hd))]
  simp only [refEvent_close _ _ _ _ _ _ (isOpen_close d), Option.bind_assoc]

theorem refDays_eq_events (cfg : SessionCfg α) (w : List (String × α)) (px : Px α) (sched : List Int) :
    ∀ (ds : List Int) (st : RefState α), (∀ d ∈ ds, weekday d ≤ 4) →
      refDays cfg w px sched st ds = refEvents cfg w px sched st (ds.flatMap (dayTemplate false false))
  | [], _, _ => rfl
  | d :: ds, st, hd => by
    rw [List.flatMap_cons, Cal.dayTemplate_ff, refDays, refDay_eq_events cfg w px sched st (hd d List.mem_cons_self)]
    simp only [List.cons_append, List.nil_append, refEvents, Option.bind_assoc,
      refDays_eq_events cfg w px sched ds _ fun d' h => hd d' (List.mem_cons_of_mem _ h)]

theorem refDay_assets (cfg : SessionCfg α) (w : List (String × α)) (px : Px α) (A : String → Prop)
    (hA : ∀ t a, a ∈ cfg.uni.assets t → A a) (hAw : ∀ a ∈ w.map (·.1), A a) {sched : List Int} {d : Int}
    {st st' : RefState α} (hd : weekday d ≤ 4) (hday : refDay cfg w px sched st d = some st') (has : Assets A st) :
    Assets A st' := by
  rw [refDay_eq_events cfg w px sched st hd] at hday
  obtain ⟨st2, h1, h2⟩ := Option.bind_eq_some_iff.mp hday
  exact refEvent_assets cfg w px A hA hAw h2 (refEvent_assets cfg w px A hA hAw h1 has)

theorem referenceRun_eq_events (cfg : SessionCfg α) (w : List (String × α)) (px : Px α) {sched : List Int}
    (hsc : scheduleOf cfg = .ok sched) :
    referenceRun cfg w px = refEvents cfg w px sched { cash := cfg.initialCash }
      ((bdayRange cfg.start cfg.end_).flatMap (dayTemplate false false)) := by
  unfold referenceRun
  rw [hsc]
  exact refDays_eq_events cfg w px sched _ _ fun d hd => (Cal.isBDay_iff d).1 (Cal.mem_bdayRange.1 hd).2.2

/-- the event loop of a constructed session raises exactly when `referenceRun` is undefined, and otherwise ends in a
state that represents the reference's.  `hstart` (start not after 14:30) makes the first market open not earlier than
the broker's start clock, so that the broker never sees time go backwards. -/
theorem run_rel (cfg : SessionCfg α) (w : List (String × α)) (px : Px α) (hnosig : cfg.signalSpecs = none)
    (hpos : ∀ t a p, px t a = some p → 0 < p) (hstart : todOf cfg.start ≤ OPEN)
    (s0 : Session α) (events : List SimEvent) (sched : List Int) (hinit : Session.init cfg = .ok (s0, events, sched))
    (hq : (referenceRun cfg w px).isSome ∨
      ∀ d ∈ bdayRange cfg.start cfg.end_, ∀ a, ((∃ t, a ∈ cfg.uni.assets t) ∨ a ∈ w.map (·.1)) →
        (px (d * 86400 + OPEN) a).isSome ∧ (px (d * 86400 + CLOSE) a).isSome) :
    Sim (fun s r => ∃ t, SR cfg s r t) (Session.runEvents cfg (fixedAlpha w) px sched s0 events)
      (referenceRun cfg w px) := by
  obtain ⟨hsr0, hev, hsc⟩ := init_sim cfg hnosig s0 events sched hinit
  obtain ⟨-, rfl⟩ := Cal.simEvents_ok_iff.1 hev
  have hevs : ∀ ev ∈ (bdayRange cfg.start cfg.end_).flatMap (dayTemplate false false),
      ∃ d ∈ bdayRange cfg.start cfg.end_, ev.time = d * 86400 + OPEN ∨ ev.time = d * 86400 + CLOSE := by
    intro ev hev
    obtain ⟨d, hd, he⟩ := List.mem_flatMap.mp hev
    rw [Cal.dayTemplate_ff, List.mem_cons, List.mem_singleton] at he
    exact ⟨d, hd, he.imp (congrArg SimEvent.time) (congrArg SimEvent.time)⟩
  rw [referenceRun_eq_events cfg w px hsc] at hq ⊢
  refine runEvents_refEvents cfg w px hpos sched (fun a => (∃ t, a ∈ cfg.uni.assets t) ∨ a ∈ w.map (·.1))
    (fun t a h => Or.inl ⟨t, h⟩) (fun a h => Or.inr h) _ s0 _ cfg.start hsr0 ?_
    (hq.imp id fun hq => ⟨⟨nofun, nofun⟩, ?_⟩)
  · refine List.pairwise_cons.mpr ⟨fun t ht => ?_, (Cal.template_flatMap_sorted false false _ ?_).imp le_of_lt⟩
    · obtain ⟨ev, hev, rfl⟩ := List.mem_map.mp ht
      obtain ⟨d, hd, h | h⟩ := hevs ev hev <;> rw [h]
      exacts [Cal.start_le_open hstart hd, (Cal.start_le_open hstart hd).trans (Int.add_le_add_left (by decide) _)]
    · exact Cal.bdayRange_pairwise _ _
  · intro ev hev a ha
    obtain ⟨d, hd, h | h⟩ := hevs ev hev <;> rw [h]
    exacts [(hq d hd a ha).1, (hq d hd a ha).2]

end
end Qs.Ref
