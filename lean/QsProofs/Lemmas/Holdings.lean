import QsProofs.Lemmas.NumBasic
import QsProofs.Lemmas.BrokerBasic
import QsProofs.Lemmas.Position
import Mathlib.Algebra.BigOperators.Group.List.Basic
import Mathlib.Data.List.Nodup
import Mathlib.Data.List.Dedup

/-!
# A portfolio's holdings along a run of fills and marks (what C02 rests on)

In the domain (clocks not ahead of the event, positive prices) nothing is raised and `mark` is a map over the
dictionary.  C02's invariant `Tracks` relates `find? a` to a ghost pair (signed sum of fills, last seen price) key by
key, so a step is checked on one `Option (Position α)` at a time; `run_ok` carries it along a valid event list.
-/

set_option linter.unusedSectionVars false

namespace Qs
open NumOps Num

section field
variable {α : Type} [Field α] [LinearOrder α] [IsStrictOrderedRing α] [FloorRing α] [NumOps α] [LawfulNumOps α]

/-! ## Nothing is raised in the domain: clocks not ahead of the event, a positive price

A zero quantity is in the domain (the fill is then ignored). -/

theorem mark_dom (p : Portfolio α) (a : String) (price : α) (t : Int) (hc : p.clock ≤ t)
    (hp : ∀ pos ∈ p.positions, pos.clock ≤ t) (hpr : 0 < price) :
    p.mark a price t =
      (match Positions.find? p.positions a with
        | none => p
        | some pos => { p with positions := Positions.set p.positions { pos with clock := t, price := price } },
       none) := by
  rw [mark_flat]
  cases hf : Positions.find? p.positions a with
  | none => rfl
  | some pos =>
    dsimp only
    rw [if_neg (by rw [lt_eq, zero_eq, decide_eq_true_eq]; exact not_lt.mpr hpr.le), if_neg (not_lt.mpr hc),
      Position.updatePrice_dom pos hpr (hp pos (Positions.find?_some hf).1)]

theorem mark_ok (p : Portfolio α) (a : String) (price : α) (t : Int) (hc : p.clock ≤ t)
    (hp : ∀ pos ∈ p.positions, pos.clock ≤ t) (hpr : 0 < price) :
    (p.mark a price t).2 = none ∧ ∀ pos ∈ (p.mark a price t).1.positions, pos.clock ≤ t := by
  rw [mark_dom p a price t hc hp hpr]
  refine ⟨rfl, ?_⟩
  cases Positions.find? p.positions a with
  | none => exact hp
  | some pos =>
    intro x hx
    rcases Positions.mem_set hx with rfl | hx
    · exact le_refl _
    · exact hp x hx

theorem transactPosition_ok (ps : Positions α) (tx : Txn α) (hp : ∀ pos ∈ ps, pos.clock ≤ tx.time)
    (hpr : 0 < tx.price) :
    (ps.transactPosition tx).2 = none ∧ ∀ pos ∈ (ps.transactPosition tx).1, pos.clock ≤ tx.time := by
  -- one position: a zero quantity changes nothing, any other is in the domain of `Position.transact_dom`
  have one : ∀ p ∈ ps, (p.transact tx).2 = none ∧ (p.transact tx).1.clock ≤ tx.time := fun p hm => by
    by_cases hq : tx.qty = 0
    · rw [Position.transact_flat, if_pos hq]; exact ⟨rfl, hp p hm⟩
    · rw [Position.transact_dom p tx hq hpr (hp p hm)]; exact ⟨rfl, le_refl _⟩
  refine ⟨?_, fun x hx => ?_⟩
  · rw [Positions.transactPosition_out]
    cases hf : Positions.find? ps tx.asset with
    | none => rfl
    | some p => exact (one p (Positions.find?_some hf).1).1
  · rcases Positions.mem_transactPosition hx with h | ⟨p, hf, rfl⟩ | rfl
    · exact hp x h
    · exact (one p (Positions.find?_some hf).1).2
    · rw [Position.openFrom_clock]

theorem transactAsset_dom (p : Portfolio α) (tx : Txn α) (hc : p.clock ≤ tx.time)
    (hp : ∀ pos ∈ p.positions, pos.clock ≤ tx.time) (hpr : 0 < tx.price) :
    p.transactAsset tx =
      ({ p with clock := tx.time, positions := (p.positions.transactPosition tx).1,
                cash := p.cash - (tx.price * ofInt tx.qty + tx.commission),
                history := p.history ++ [fillEvent tx p.cash] }, none) := by
  rw [transactAsset_flat, if_neg (not_lt.mpr hc), (transactPosition_ok p.positions tx hp hpr).1]
  rfl

theorem transactAsset_ok (p : Portfolio α) (tx : Txn α) (hc : p.clock ≤ tx.time)
    (hp : ∀ pos ∈ p.positions, pos.clock ≤ tx.time) (hpr : 0 < tx.price) :
    (p.transactAsset tx).2 = none ∧ (p.transactAsset tx).1.clock ≤ tx.time ∧
    ∀ pos ∈ (p.transactAsset tx).1.positions, pos.clock ≤ tx.time := by
  rw [transactAsset_dom p tx hc hp hpr]
  exact ⟨rfl, le_refl _, (transactPosition_ok p.positions tx hp hpr).2⟩

end field

namespace C02

/-- the inputs of C02 at the `Portfolio` level: a fill (a `Transaction`) or a price mark -/
inductive PEv (α : Type)
  | fill (t : Txn α)
  | mark (asset : String) (price : α) (time : Int)

section model
variable {α : Type} [Add α] [Sub α] [Mul α] [Div α] [Neg α] [NumOps α]

def stepEv (p : Portfolio α) : PEv α → Portfolio α × Option Err
  | .fill t => p.transactAsset t
  | .mark a pr t => p.mark a pr t

def applyEv (p : Portfolio α) (e : PEv α) : Portfolio α := (stepEv p e).1

def run (p : Portfolio α) (es : List (PEv α)) : Portfolio α := es.foldl applyEv p

def NoErr : Portfolio α → List (PEv α) → Prop
  | _, [] => True
  | p, e :: es => (stepEv p e).2 = none ∧ NoErr (applyEv p e) es

end model

section spec
variable {α : Type}

def PEv.time : PEv α → Int
  | .fill t => t.time
  | .mark _ _ t => t

/-- per-event domain: non-zero integer quantity, positive price, non-negative commission (the last as in the
property's English statement; no proof uses it) -/
def PEv.Ok [Zero α] [LT α] [LE α] : PEv α → Prop
  | .fill t => t.qty ≠ 0 ∧ 0 < t.price ∧ 0 ≤ t.commission
  | .mark _ pr _ => 0 < pr

def Valid [Zero α] [LT α] [LE α] (c : Int) : List (PEv α) → Prop
  | [] => True
  | e :: es => e.Ok ∧ c ≤ e.time ∧ Valid e.time es

def fillQty (a : String) : PEv α → Int
  | .fill t => if t.asset = a then t.qty else 0
  | .mark _ _ _ => 0

def fillSum (a : String) (es : List (PEv α)) : Int := (es.map (fillQty a)).sum

/-- ghost state per asset: (running signed sum of fills, price of the last event that was a fill of
`a` or a mark of `a` made while the running sum was non-zero) -/
def seenStep (a : String) (s : Int × Option α) : PEv α → Int × Option α
  | .fill t => if t.asset = a then (s.1 + t.qty, some t.price) else s
  | .mark b pr _ => if b = a ∧ s.1 ≠ 0 then (s.1, some pr) else s

def seenFrom (a : String) (s : Int × Option α) (es : List (PEv α)) : Int × Option α :=
  es.foldl (seenStep a) s

def seen (a : String) (es : List (PEv α)) : Int × Option α := seenFrom a (0, none) es

/-- price of the last event of `es` that is a fill of `a`, or a mark of `a` made while `a` was held -/
def lastSeen (a : String) (es : List (PEv α)) : Option α := (seen a es).2

theorem fillSum_nil (a : String) : fillSum a ([] : List (PEv α)) = 0 := rfl

theorem fillSum_append (a : String) (es fs : List (PEv α)) :
    fillSum a (es ++ fs) = fillSum a es + fillSum a fs := by
  unfold fillSum; simp

theorem fillSum_cons (a : String) (e : PEv α) (es : List (PEv α)) :
    fillSum a (e :: es) = fillQty a e + fillSum a es := by
  unfold fillSum; simp

theorem seenStep_fst (a : String) (s : Int × Option α) (e : PEv α) :
    (seenStep a s e).1 = s.1 + fillQty a e := by
  cases e with
  | fill t => by_cases h : t.asset = a <;> simp [seenStep, fillQty, h]
  | mark b pr t =>
    show (if b = a ∧ s.1 ≠ 0 then (s.1, some pr) else s).1 = s.1 + 0
    split <;> simp

theorem seenFrom_fst (a : String) (s : Int × Option α) (es : List (PEv α)) :
    (seenFrom a s es).1 = s.1 + fillSum a es := by
  unfold seenFrom
  induction es generalizing s with
  | nil => simp [fillSum]
  | cons e es ih =>
    rw [List.foldl_cons, ih, seenStep_fst, fillSum_cons]; ring

theorem seen_fst (a : String) (es : List (PEv α)) : (seen a es).1 = fillSum a es := by
  unfold seen; rw [seenFrom_fst]; simp

theorem seen_snoc (a : String) (es : List (PEv α)) (e : PEv α) :
    seen a (es ++ [e]) = seenStep a (seen a es) e := by
  unfold seen seenFrom; simp

theorem lastSeen_snoc_fill (es : List (PEv α)) (t : Txn α) :
    lastSeen t.asset (es ++ [.fill t]) = some t.price := by
  unfold lastSeen; rw [seen_snoc]; simp [seenStep]

theorem lastSeen_snoc_mark_held (a : String) (es : List (PEv α)) (pr : α) (t : Int)
    (h : fillSum a es ≠ 0) : lastSeen a (es ++ [.mark a pr t]) = some pr := by
  unfold lastSeen; rw [seen_snoc]; simp [seenStep, seen_fst, h]

theorem lastSeen_snoc_mark_unheld (a : String) (es : List (PEv α)) (pr : α) (t : Int)
    (h : fillSum a es = 0) : lastSeen a (es ++ [.mark a pr t]) = lastSeen a es := by
  unfold lastSeen; rw [seen_snoc]; simp [seenStep, seen_fst, h]

theorem lastSeen_snoc_fill_ne (a : String) (es : List (PEv α)) (t : Txn α) (h : t.asset ≠ a) :
    lastSeen a (es ++ [.fill t]) = lastSeen a es := by
  unfold lastSeen; rw [seen_snoc]; simp [seenStep, h]

theorem lastSeen_snoc_mark_ne (a b : String) (es : List (PEv α)) (pr : α) (t : Int) (h : b ≠ a) :
    lastSeen a (es ++ [.mark b pr t]) = lastSeen a es := by
  unfold lastSeen; rw [seen_snoc]; simp [seenStep, h]

def upd (a : String) (pr : α) (t : Int) (pos : Position α) : Position α :=
  if pos.asset = a then { pos with clock := t, price := pr } else pos

theorem upd_eq_keyed (a : String) (pr : α) (t : Int) :
    upd a pr t = fun x => if x.asset == a then { x with clock := t, price := pr } else x := by
  funext x
  unfold upd
  simp only [beq_iff_eq]

theorem upd_asset (a : String) (pr : α) (t : Int) (pos : Position α) :
    (upd a pr t pos).asset = pos.asset := by
  unfold upd; split <;> rfl

theorem upd_clock_le (a : String) (pr : α) (t : Int) (pos : Position α) (h : pos.clock ≤ t) :
    (upd a pr t pos).clock ≤ t := by
  unfold upd; split
  · exact le_refl _
  · exact h

theorem upd_fields (a : String) (pr : α) (t : Int) (x : Position α) :
    (fun x : Position α => (x.asset, x.buyQ, x.sellQ, x.avgB, x.avgS, x.comB, x.comS)) (upd a pr t x)
      = (x.asset, x.buyQ, x.sellQ, x.avgB, x.avgS, x.comB, x.comS) := by
  unfold upd; split <;> rfl

theorem find?_map_upd (ps : Positions α) (a : String) (pr : α) (t : Int) (b : String) :
    Positions.find? (ps.map (upd a pr t)) b =
      if b = a then (Positions.find? ps a).map fun pos => { pos with clock := t, price := pr }
      else Positions.find? ps b := by
  rw [upd_eq_keyed]
  have hg : ∀ x : Position α, x.asset = a → ({ x with clock := t, price := pr } : Position α).asset = a := fun _ h => h
  split
  · next hb => rw [hb]; exact find?_upd_self (fun q : Position α => q.asset) _ a hg ps
  · next hb => exact find?_upd_ne (fun q : Position α => q.asset) _ a hg hb ps

end spec

section field
variable {α : Type} [Field α] [LinearOrder α] [IsStrictOrderedRing α] [FloorRing α] [NumOps α] [LawfulNumOps α]

/-- structural invariant relative to the "current time" `c` (the latest event time so far):
clocks are not ahead of `c` and the dictionary keys are pairwise distinct -/
structure WF (p : Portfolio α) (c : Int) : Prop where
  clock_le : p.clock ≤ c
  pos_clock_le : ∀ pos ∈ p.positions, pos.clock ≤ c
  nodup : (Positions.keys p.positions).Nodup

theorem WF.mono {p : Portfolio α} {t t' : Int} (h : WF p t) (ht : t ≤ t') : WF p t' :=
  ⟨h.clock_le.trans ht, fun pos hp => (h.pos_clock_le pos hp).trans ht, h.nodup⟩

/-- the ghost pair `s` (running fill sum, last seen price) describes what is stored under one key -/
def Rel (o : Option (Position α)) (s : Int × Option α) : Prop :=
  (∀ pos, o = some pos → pos.net = (s.1 : α) ∧ s.1 ≠ 0 ∧ s.2 = some pos.price) ∧ (o = none → s.1 = 0)

theorem Rel.of_none {s : Int × Option α} (h : s.1 = 0) : Rel (none : Option (Position α)) s :=
  ⟨fun _ e => (by cases e), fun _ => h⟩

theorem Rel.of_some {pos : Position α} {s : Int × Option α} (hn : pos.net = (s.1 : α)) (hz : s.1 ≠ 0)
    (hp : s.2 = some pos.price) : Rel (some pos) s :=
  ⟨fun q e => (by cases e; exact ⟨hn, hz, hp⟩), fun e => by cases e⟩

def Tracks (p : Portfolio α) (s : String → Int × Option α) : Prop :=
  ∀ a, Rel (p.positions.find? a) (s a)

theorem WF_of_empty {p : Portfolio α} {c : Int} (h : p.positions = []) (hc : p.clock ≤ c) : WF p c :=
  ⟨hc, by simp [h], by simp [h, Positions.keys]⟩

theorem Tracks_of_empty {p : Portfolio α} (h : p.positions = []) : Tracks p (fun _ => (0, none)) := by
  intro a
  rw [h]
  exact Rel.of_none rfl

/-- an entry with net `n` and price `pr`, stored iff `n ≠ 0` -/
theorem Rel.of_entry {p' : Position α} {n : Int} {pr : α} (hn : p'.net = (n : α)) (hpr : p'.price = pr) :
    Rel (if beq p'.net zero = true then none else some p') (n, some pr) := by
  have hz : beq p'.net zero = true ↔ n = 0 := by
    simp only [beq_eq, zero_eq, decide_eq_true_eq, hn, Int.cast_eq_zero]
  by_cases h0 : n = 0
  · rw [if_pos (hz.mpr h0)]; exact Rel.of_none h0
  · rw [if_neg (fun e => h0 (hz.mp e))]; exact Rel.of_some hn h0 (congrArg some hpr.symm)

theorem Rel.fill {o : Option (Position α)} {s : Int × Option α} (h : Rel o s) (t : Txn α)
    (hq : t.qty ≠ 0) (hp : 0 < t.price) (hc : ∀ pos, o = some pos → pos.clock ≤ t.time) :
    Rel (Positions.afterFill o t) (s.1 + t.qty, some t.price) := by
  cases o with
  | some p =>
    have e := Position.transact_dom p t hq hp (hc p rfl)
    have hn := Position.transact_net p t hq hp (hc p rfl)
    rw [Positions.afterFill_some_ok e]
    rw [e] at hn
    exact Rel.of_entry (by rw [hn, (h.1 p rfl).1, Int.cast_add]) rfl
  | none =>
    rw [Positions.afterFill_none]
    exact Rel.of_entry (by rw [Position.openFrom_net, h.2 rfl, Int.zero_add]) (Position.openFrom_price t)

theorem Rel.mark {o : Option (Position α)} {s : Int × Option α} (h : Rel o s) (a b : String) (pr : α) (t : Int)
    (ha : ∀ pos, o = some pos → pos.asset = a) :
    Rel (o.map (upd b pr t)) (seenStep a s (.mark b pr t)) := by
  show Rel _ (if b = a ∧ s.1 ≠ 0 then (s.1, some pr) else s)
  cases o with
  | none => rw [if_neg (fun hh : b = a ∧ s.1 ≠ 0 => hh.2 (h.2 rfl))]; exact h
  | some pos =>
    obtain ⟨hnet, hnz, -⟩ := h.1 pos rfl
    unfold upd
    rw [Option.map_some, ha pos rfl]
    by_cases hab : a = b
    · rw [if_pos hab, if_pos ⟨hab.symm, hnz⟩]
      exact Rel.of_some hnet hnz rfl
    · rw [if_neg hab, if_neg (fun hh : b = a ∧ s.1 ≠ 0 => hab hh.1.symm)]
      exact h

theorem mark_map_form (p : Portfolio α) (t : Int) (hwf : WF p t) (a : String) {pr : α} (hp : 0 < pr) :
    p.mark a pr t = ({ p with positions := p.positions.map (upd a pr t) }, none) := by
  rw [mark_dom p a pr t hwf.clock_le hwf.pos_clock_le hp, upd_eq_keyed]
  cases hf : Positions.find? p.positions a with
  | none => rw [map_upd_of_not_mem _ _ _ (Positions.find?_eq_none.mp hf)]
  | some pos =>
    -- under distinct keys both `set` and the keyed update see the found entry only
    have hk : pos.asset = a := (Positions.find?_some hf).2
    have h1 := map_upd_of_unique (fun q : Position α => q.asset) (fun _ => { pos with clock := t, price := pr })
      a hwf.nodup hf id
    have h2 := map_upd_of_unique (fun q : Position α => q.asset)
      (fun x : Position α => { x with clock := t, price := pr }) a hwf.nodup hf id
    rw [List.map_id] at h1 h2
    dsimp only
    rw [h2, ← h1, ← hk]
    rfl

theorem transactAsset_spec (p : Portfolio α) (c : Int) (hwf : WF p c) (t : Txn α) (hp : 0 < t.price)
    (ht : c ≤ t.time) :
    (p.transactAsset t).2 = none ∧
      (p.transactAsset t).1.positions = (p.positions.transactPosition t).1 ∧
      (p.transactAsset t).1.clock = t.time := by
  rw [transactAsset_dom p t (hwf.clock_le.trans ht) (fun pos h => (hwf.pos_clock_le pos h).trans ht) hp]
  exact ⟨rfl, rfl, rfl⟩

theorem WF.fill {p : Portfolio α} {c : Int} (hwf : WF p c) (t : Txn α) (hp : 0 < t.price)
    (ht : c ≤ t.time) : WF (p.transactAsset t).1 t.time := by
  obtain ⟨_, hclock, hclk⟩ := transactAsset_ok p t (hwf.clock_le.trans ht)
    (fun pos h => (hwf.pos_clock_le pos h).trans ht) hp
  refine ⟨hclock, hclk, ?_⟩
  rw [(transactAsset_spec p c hwf t hp ht).2.1]
  exact Positions.keys_transactPosition_nodup _ t hwf.nodup

theorem WF.mark {p : Portfolio α} {t : Int} (hwf : WF p t) (b : String) {pr : α} (hp : 0 < pr) :
    WF (p.mark b pr t).1 t := by
  rw [mark_map_form p t hwf b hp]
  refine ⟨hwf.clock_le, fun x hx => ?_, (Positions.keys_map (upd_asset b pr t) _).symm ▸ hwf.nodup⟩
  obtain ⟨y, hy, rfl⟩ := List.mem_map.mp hx
  exact upd_clock_le _ _ _ _ (hwf.pos_clock_le y hy)

theorem Tracks.fill {p : Portfolio α} {c : Int} {s : String → Int × Option α} (htr : Tracks p s) (hwf : WF p c)
    (t : Txn α) (hq : t.qty ≠ 0) (hp : 0 < t.price) (hc : c ≤ t.time) :
    Tracks (p.transactAsset t).1 (fun a => seenStep a (s a) (.fill t)) := by
  intro a
  rw [(transactAsset_spec p c hwf t hp hc).2.1, Positions.find?_transactPosition]
  show Rel _ (if t.asset = a then _ else _)
  by_cases ha : a = t.asset
  · subst ha
    rw [if_pos rfl, if_pos rfl]
    exact (htr _).fill t hq hp fun pos hf => (hwf.pos_clock_le pos (Positions.find?_some hf).1).trans hc
  · rw [if_neg ha, if_neg fun h => ha h.symm]
    exact htr a

theorem Tracks.mark {p : Portfolio α} {t : Int} {s : String → Int × Option α} (htr : Tracks p s) (hwf : WF p t)
    (b : String) {pr : α} (hp : 0 < pr) :
    Tracks (p.mark b pr t).1 (fun a => seenStep a (s a) (.mark b pr t)) := by
  intro a
  rw [mark_map_form p t hwf b hp]
  show Rel (Positions.find? (p.positions.map (upd b pr t)) a) _
  rw [Positions.find?_map (upd_asset b pr t)]
  exact (htr a).mark a b pr t fun pos hf => (Positions.find?_some hf).2

theorem stepEv_ok (p : Portfolio α) (c : Int) (s : String → Int × Option α) (e : PEv α)
    (hwf : WF p c) (htr : Tracks p s) (hok : e.Ok) (hc : c ≤ e.time) :
    (stepEv p e).2 = none ∧ WF (applyEv p e) e.time ∧
      Tracks (applyEv p e) (fun a => seenStep a (s a) e) := by
  cases e with
  | fill t =>
    obtain ⟨hq, hp, -⟩ := hok
    exact ⟨(transactAsset_spec p c hwf t hp hc).1, hwf.fill t hp hc, htr.fill hwf t hq hp hc⟩
  | mark b pr t =>
    have hwf' : WF p t := hwf.mono hc
    exact ⟨congrArg Prod.snd (mark_map_form p t hwf' b hok), hwf'.mark b hok, htr.mark hwf' b hok⟩

theorem run_ok (es : List (PEv α)) : ∀ (p : Portfolio α) (c : Int) (s : String → Int × Option α),
    WF p c → Tracks p s → Valid c es →
    NoErr p es ∧ (∃ c', WF (run p es) c') ∧ Tracks (run p es) (fun a => seenFrom a (s a) es) := by
  induction es with
  | nil => intro p c s hwf htr _; exact ⟨trivial, ⟨c, hwf⟩, htr⟩
  | cons e es ih =>
    intro p c s hwf htr hv
    obtain ⟨hok, hc, hv'⟩ := hv
    obtain ⟨herr, hwf', htr'⟩ := stepEv_ok p c s e hwf htr hok hc
    obtain ⟨hne, hwf'', htr''⟩ := ih (applyEv p e) e.time _ hwf' htr' hv'
    exact ⟨⟨herr, hne⟩, hwf'', htr''⟩

/-- the model multiplies `price * net`; C02 is stated with `net * price` -/
theorem totalMarketValue_eq_sum (ps : Positions α) :
    ps.totalMarketValue = (ps.map (fun pos => pos.net * pos.price)).sum := by
  unfold Positions.totalMarketValue
  rw [sumNaive_eq_sum]
  congr 1
  apply List.map_congr_left
  intro pos _
  unfold Position.marketValue
  ring

def ghostValue (s : String → Int × Option α) (a : String) : α := ((s a).1 : α) * ((s a).2).getD 0

theorem totalMarketValue_ghost_keys (p : Portfolio α) (c : Int) (s : String → Int × Option α)
    (hwf : WF p c) (htr : Tracks p s) :
    p.totalMarketValue = ((Positions.keys p.positions).map (ghostValue s)).sum := by
  unfold Portfolio.totalMarketValue
  rw [totalMarketValue_eq_sum]
  unfold Positions.keys
  rw [List.map_map]
  congr 1
  apply List.map_congr_left
  intro pos hpos
  obtain ⟨hnet, _, hlast⟩ := (htr pos.asset).1 pos (Positions.find?_of_mem hwf.nodup hpos)
  simp only [Function.comp, ghostValue, hlast, Option.getD_some, hnet]

theorem mem_keys_iff_ghost (p : Portfolio α) (s : String → Int × Option α) (htr : Tracks p s)
    (a : String) : a ∈ Positions.keys p.positions ↔ (s a).1 ≠ 0 := by
  rw [← Positions.find?_isSome]
  cases hf : Positions.find? p.positions a with
  | none => simp [(htr a).2 hf]
  | some pos => simp [((htr a).1 pos hf).2.1]

/-- market value as a sum over ANY duplicate-free enumeration `L` of the held assets -/
theorem totalMarketValue_ghost (p : Portfolio α) (c : Int) (s : String → Int × Option α)
    (hwf : WF p c) (htr : Tracks p s) (L : List String) (hL : L.Nodup)
    (hmem : ∀ a, a ∈ L ↔ (s a).1 ≠ 0) :
    p.totalMarketValue = (L.map (ghostValue s)).sum := by
  rw [totalMarketValue_ghost_keys p c s hwf htr]
  apply List.Perm.sum_eq
  apply List.Perm.map
  rw [List.perm_ext_iff_of_nodup hwf.nodup hL]
  intro a
  rw [mem_keys_iff_ghost p s htr a, hmem a]

end field

/-! ### a canonical enumeration of the held assets, computed from the event list alone -/

section held
variable {α : Type}

def fillAsset? : PEv α → Option String
  | .fill t => some t.asset
  | .mark _ _ _ => none

/-- assets with a non-zero signed fill sum, each once (`List.dedup` keeps the last occurrence, so: in order of last fill) -/
def heldAssets (es : List (PEv α)) : List String :=
  ((es.filterMap fillAsset?).dedup).filter (fun a => decide (fillSum a es ≠ 0))

theorem fillSum_eq_zero_of_not_filled (a : String) (es : List (PEv α))
    (h : a ∉ es.filterMap fillAsset?) : fillSum a es = 0 := by
  induction es with
  | nil => rfl
  | cons e es ih =>
    rw [fillSum_cons]
    cases e with
    | fill t =>
      simp only [List.filterMap_cons, fillAsset?, List.mem_cons, not_or] at h
      rw [ih h.2]
      have : ¬ t.asset = a := fun e => h.1 e.symm
      simp [fillQty, this]
    | mark b pr t =>
      simp only [List.filterMap_cons, fillAsset?] at h
      rw [ih h]
      simp [fillQty]

theorem heldAssets_nodup (es : List (PEv α)) : (heldAssets es).Nodup :=
  (List.nodup_dedup _).filter _

theorem mem_heldAssets (es : List (PEv α)) (a : String) : a ∈ heldAssets es ↔ fillSum a es ≠ 0 := by
  unfold heldAssets
  rw [List.mem_filter, List.mem_dedup]
  constructor
  · intro h; simpa using h.2
  · intro h
    refine ⟨?_, by simpa using h⟩
    by_contra hn
    exact h (fillSum_eq_zero_of_not_filled a es hn)

end held
end C02
end Qs
