import QsProofs.Lemmas.Holdings

/-!
# `Broker.update` seen from one (portfolio, asset) slot: the broker lift of C02

`posOf b pid a` is the slot.  A call on a portfolio, hence an executed order, touches only the slot it addresses
(`posOf_call_ne`, `posOf_runOrders_ne`).  Under `BWF` (distinct portfolio ids, well-formed portfolios, clocks not
ahead) the marks of an update raise nothing and act as a map: every quoted held position is re-priced at the mid and
stamped (`marks_phase`, `update_dom`); `markTargets_eq` says which marks there are.
-/

set_option linter.unusedSectionVars false

namespace Qs
namespace C02

section model
variable {α : Type} [Add α] [Sub α] [Mul α] [Div α] [Neg α] [NumOps α]

/-! ## frame: what the order phase of `update` cannot touch -/

/-- the position stored for asset `a` in portfolio `pid` -/
def posOf (b : Broker α) (pid a : String) : Option (Position α) :=
  (b.find? pid).bind (fun e => e.pf.positions.find? a)

theorem posOf_asset {b : Broker α} {pid a : String} {pos : Position α} (h : posOf b pid a = some pos) :
    pos.asset = a := by
  unfold posOf at h
  cases hf : b.find? pid with
  | none => rw [hf] at h; cases h
  | some e => rw [hf] at h; exact (Positions.find?_some h).2

/-- `h`: if the call is directed at `pid`, the called method leaves what a portfolio stores under `a` alone -/
theorem posOf_call_ne (b : Broker α) (pid' : String) (c : PfCall α) (m : α) (pid a : String)
    (h : pid = pid' → ∀ p : Portfolio α, Positions.find? (c.run p).1.positions a = Positions.find? p.positions a) :
    posOf (b.call pid' c m).1 pid a = posOf b pid a := by
  cases hf : b.find? pid' with
  | none => rw [call_none hf]
  | some e =>
    have key : ∀ pf : Portfolio α, pf.id = pid' →
        (pid = pid' → Positions.find? pf.positions a = Positions.find? e.pf.positions a) →
        posOf (b.setPf pf) pid a = posOf b pid a := by
      intro pf hid hpf
      subst hid
      unfold posOf
      by_cases hp : pid = pf.id
      · subst hp; rw [find?_setPf_self b pf hf, hf]; exact hpf rfl
      · rw [find?_setPf_ne b pf hp]
    rw [call_some hf]
    cases (c.run e.pf).2 <;> exact key _ ((PfCall.run_id c e.pf).trans (find?_id hf)) fun hp => h hp e.pf

theorem posOf_applyTxn_ne (b : Broker α) (pid' : String) (t : Txn α) (pid a : String)
    (h : ¬ (pid = pid' ∧ a = t.asset)) : posOf (b.applyTxn pid' t).1 pid a = posOf b pid a := by
  rw [applyTxn_eq_call]
  exact posOf_call_ne b pid' _ _ pid a fun hp p => transactAsset_find?_ne p t fun ha => h ⟨hp, ha⟩

theorem posOf_executeOrder_ne (b : Broker α) (q : Quotes α) (pid' : String) (o : Order)
    (pid a : String) (h : ¬ (pid = pid' ∧ a = o.asset)) :
    posOf (b.executeOrder q pid' o).1 pid a = posOf b pid a := by
  unfold Broker.executeOrder
  rw [makeTxn_eq]
  rcases q o.asset with _ | ⟨bid, ask⟩
  · rfl
  · exact posOf_applyTxn_ne b pid' (fillOf b.clock b.fee o bid ask) pid a h

theorem posOf_runOrders_ne (q : Quotes α) (pid a : String) (batch : List (String × Order)) (b : Broker α)
    (h : ∀ x ∈ batch, ¬ (pid = x.1 ∧ a = x.2.asset)) :
    posOf (Broker.runUntilErr (fun b (x : String × Order) => b.executeOrder q x.1 x.2) b batch).1
      pid a = posOf b pid a :=
  runUntilErr_inv_mem _ (fun b' => posOf b' pid a = posOf b pid a) batch
    (fun b' x hx hI => (posOf_executeOrder_ne b' q x.1 x.2 pid a (h x hx)).trans hI) b rfl

theorem posOf_clearQueues (b : Broker α) (pid a : String) :
    posOf b.clearQueues pid a = posOf b pid a := by
  unfold posOf Broker.clearQueues Broker.find?
  dsimp only
  rw [find?_key_map (fun e : PfEntry α => e.pf.id) (g := fun e => { e with queue := [] }) (fun _ => rfl)]
  cases List.find? (fun e : PfEntry α => e.pf.id == pid) b.entries <;> rfl

end model

section field
variable {α : Type} [Field α] [LinearOrder α] [IsStrictOrderedRing α] [FloorRing α] [NumOps α] [LawfulNumOps α]

structure BWF (b : Broker α) (t : Int) : Prop where
  ids_nodup : (b.entries.map (·.pf.id)).Nodup
  wf : ∀ e ∈ b.entries, WF e.pf t

theorem BWF.uniqueIds {b : Broker α} {t : Int} (h : BWF b t) : UniqueIds b := h.ids_nodup

/-! ## one mark on the broker, and a run of marks, as maps -/

/-- effect of target `m` on a position stored in portfolio `i` -/
def updP (i : String) (t : Int) (pos : Position α) (m : String × String × α) : Position α :=
  if i = m.1 then upd m.2.1 m.2.2 t pos else pos

theorem updP_asset (i : String) (t : Int) (pos : Position α) (m : String × String × α) :
    (updP i t pos m).asset = pos.asset := by
  unfold updP; split
  · exact upd_asset _ _ _ _
  · rfl

/-- effect of the targets `ms`, in order, on a broker entry: on each stored position, those addressed to it -/
def updE (t : Int) (ms : List (String × String × α)) (x : PfEntry α) : PfEntry α :=
  { x with pf := { x.pf with positions := x.pf.positions.map fun pos => ms.foldl (updP x.pf.id t) pos } }

end field

section plain
variable {α : Type}

theorem updE_nil (t : Int) : updE t ([] : List (String × String × α)) = id := by
  funext x
  show ({ x with pf := { x.pf with positions := x.pf.positions.map fun pos => pos } } : PfEntry α) = x
  rw [List.map_id']

theorem updE_cons (t : Int) (m : String × String × α) (ms : List (String × String × α)) (x : PfEntry α) :
    updE t (m :: ms) x = updE t ms (updE t [m] x) := by
  unfold updE
  simp only [List.map_map, List.foldl_cons, List.foldl_nil, Function.comp_def]

theorem updP_of_hit {i : String} {t : Int} {pos : Position α} {m : String × String × α} (h1 : m.1 = i)
    (h2 : m.2.1 = pos.asset) : updP i t pos m = { pos with clock := t, price := m.2.2 } := by
  unfold updP upd
  rw [if_pos h1.symm, if_pos h2.symm]

theorem updP_of_miss {i : String} {t : Int} {pos : Position α} {m : String × String × α}
    (h : ¬ (m.1 = i ∧ m.2.1 = pos.asset)) : updP i t pos m = pos := by
  unfold updP upd
  by_cases him : i = m.1
  · rw [if_pos him, if_neg fun e : pos.asset = m.2.1 => h ⟨him.symm, e.symm⟩]
  · rw [if_neg him]

/-- all targets addressing the slot `(i, pos.asset)` carry the same price, so a later hit finds the position already
re-priced and stamped -/
theorem foldl_updP (i : String) (t : Int) (v : α) (ms : List (String × String × α)) :
    ∀ (pos : Position α), (∀ m ∈ ms, m.1 = i → m.2.1 = pos.asset → m.2.2 = v) →
      ms.foldl (updP i t) pos =
        if ∃ m ∈ ms, m.1 = i ∧ m.2.1 = pos.asset then { pos with clock := t, price := v } else pos := by
  induction ms with
  | nil => exact fun pos _ => (if_neg fun ⟨_, hm, _⟩ => List.not_mem_nil hm).symm
  | cons m ms ih =>
    intro pos h
    have h' := fun m' hm' => h m' (List.mem_cons_of_mem _ hm')
    rw [List.foldl_cons]
    by_cases hit : m.1 = i ∧ m.2.1 = pos.asset
    · rw [updP_of_hit hit.1 hit.2, h m List.mem_cons_self hit.1 hit.2, ih { pos with clock := t, price := v } h',
        if_pos (show ∃ m' ∈ m :: ms, m'.1 = i ∧ m'.2.1 = pos.asset from ⟨m, List.mem_cons_self, hit⟩)]
      split <;> rfl
    · rw [updP_of_miss hit, ih pos h']
      simp only [List.mem_cons, exists_eq_or_imp, hit, false_or]

end plain

section field
variable {α : Type} [Field α] [LinearOrder α] [IsStrictOrderedRing α] [FloorRing α] [NumOps α] [LawfulNumOps α]

theorem BWF_map_updE (b : Broker α) (t : Int) (ms : List (String × String × α)) (h : BWF b t) :
    BWF { b with entries := b.entries.map (updE t ms) } t := by
  refine ⟨?_, fun e he => ?_⟩
  · show (List.map _ (List.map (updE t ms) b.entries)).Nodup
    rw [map_key_map (fun e : PfEntry α => e.pf.id) (g := updE t ms) (fun _ => rfl)]
    exact h.ids_nodup
  obtain ⟨x, hx, rfl⟩ := List.mem_map.mp he
  have hw := h.wf x hx
  refine ⟨hw.clock_le, fun y hy => ?_, ?_⟩
  · obtain ⟨pos, hpos, rfl⟩ := List.mem_map.mp hy
    refine foldl_inv _ (fun p : Position α => p.clock ≤ t) (fun p m hc => ?_) ms pos (hw.pos_clock_le pos hpos)
    unfold updP
    split
    · exact upd_clock_le _ _ _ _ hc
    · exact hc
  · show (Positions.keys (List.map _ x.pf.positions)).Nodup
    rw [Positions.keys_map fun pos => foldl_inv _ (fun p : Position α => p.asset = pos.asset)
      (fun p m hp => (updP_asset _ t p m).trans hp) ms pos rfl]
    exact hw.nodup

theorem applyMark_map_form (b : Broker α) (t : Int) (hb : BWF b t) (m : String × String × α)
    (hhas : m.1 ∈ b.entries.map (·.pf.id)) (hp : 0 < m.2.2) :
    b.applyMark m.1 m.2.1 m.2.2 t = ({ b with entries := b.entries.map (updE t [m]) }, none) := by
  obtain ⟨e, hf⟩ := find?_of_has ((has_iff_mem b m.1).mpr hhas)
  have hid := find?_id hf
  have hmem := find?_mem hf
  unfold Broker.applyMark
  rw [hf]
  simp only [mark_map_form e.pf t (hb.wf e hmem) m.2.1 hp]
  unfold Broker.setPf
  congr 2
  refine List.map_congr_left fun x hx => ?_
  show (if (x.pf.id == e.pf.id) = true then _ else x) = updE t [m] x
  unfold updE updP
  simp only [List.foldl_cons, List.foldl_nil]
  by_cases hxp : x.pf.id = m.1
  · cases List.inj_on_of_nodup_map hb.ids_nodup hx hmem (hxp.trans hid.symm)
    rw [if_pos (beq_self_eq_true _)]
    simp only [if_pos hid]
  · rw [if_neg (by rw [hid]; simpa using hxp)]
    simp only [if_neg hxp, List.map_id']

theorem runMarks_map_form (t : Int) (ms : List (String × String × α)) :
    ∀ (b : Broker α), BWF b t →
      (∀ m ∈ ms, m.1 ∈ b.entries.map (·.pf.id) ∧ 0 < m.2.2) →
      Broker.runUntilErr (fun b (m : String × String × α) => b.applyMark m.1 m.2.1 m.2.2 t) b ms
        = ({ b with entries := b.entries.map (updE t ms) }, none) := by
  induction ms with
  | nil =>
    intro b _ _
    simp only [Broker.runUntilErr, updE_nil, List.map_id]
  | cons m ms ih =>
    intro b hb hms
    have hm := hms m List.mem_cons_self
    unfold Broker.runUntilErr
    simp only [applyMark_map_form b t hb m hm.1 hm.2]
    rw [ih _ (BWF_map_updE b t [m] hb) fun m' hm' => ?_]
    · simp only [List.map_map, Function.comp_def, ← updE_cons]
    · have := hms m' (List.mem_cons_of_mem _ hm')
      refine ⟨?_, this.2⟩
      show m'.1 ∈ List.map _ (List.map (updE t [m]) b.entries)
      rw [map_key_map (fun e : PfEntry α => e.pf.id) (g := updE t [m]) (fun _ => rfl)]
      exact this.1

/-- mid price of the quote of `a` (`0` when there is none) -/
def mid (q : Quotes α) (a : String) : α :=
  match q a with
  | some (bid, ask) => (bid + ask) / 2
  | none => 0

/-- portfolios in insertion order, within each its quoted held assets in insertion order -/
theorem markTargets_eq (b : Broker α) (q : Quotes α) :
    b.markTargets q = b.entries.flatMap (fun e =>
      (e.pf.positions.filter (fun pos => (q pos.asset).isSome)).map
        (fun pos => (e.pf.id, pos.asset, mid q pos.asset))) := by
  unfold Broker.markTargets
  congr 1
  funext e
  rw [map_filter_eq_filterMap]
  congr 1
  funext pos
  unfold mid
  rcases q pos.asset with _ | ⟨bid, ask⟩
  · rfl
  · rw [ofInt_eq, Int.cast_ofNat]; rfl

theorem mem_markTargets (b : Broker α) (q : Quotes α) (m : String × String × α) :
    m ∈ b.markTargets q ↔
      ∃ e ∈ b.entries, ∃ pos ∈ e.pf.positions,
        (q pos.asset).isSome = true ∧ m = (e.pf.id, pos.asset, mid q pos.asset) := by
  rw [markTargets_eq]
  simp only [List.mem_flatMap, List.mem_map, List.mem_filter]
  constructor
  · rintro ⟨e, he, pos, ⟨hp, hq⟩, rfl⟩
    exact ⟨e, he, pos, hp, hq, rfl⟩
  · rintro ⟨e, he, pos, hp, hq, rfl⟩
    exact ⟨e, he, pos, ⟨hp, hq⟩, rfl⟩

theorem markTargets_eq_of_all_quoted (b : Broker α) (q : Quotes α)
    (hall : ∀ e ∈ b.entries, ∀ pos ∈ e.pf.positions, (q pos.asset).isSome = true) :
    b.markTargets q = b.entries.flatMap (fun e =>
      e.pf.positions.map (fun pos => (e.pf.id, pos.asset, mid q pos.asset))) := by
  rw [markTargets_eq]
  apply List.flatMap_congr
  intro e he
  congr 1
  rw [List.filter_eq_self]
  exact hall e he

/-- a position after the marks of an update with quotes `q` at time `t` -/
def markPos (q : Quotes α) (t : Int) (pos : Position α) : Position α :=
  match q pos.asset with
  | some (bid, ask) => { pos with clock := t, price := (bid + ask) / 2 }
  | none => pos

def markEntry (q : Quotes α) (t : Int) (x : PfEntry α) : PfEntry α :=
  { x with pf := { x.pf with positions := x.pf.positions.map (markPos q t) } }

theorem updE_markTargets (b : Broker α) (q : Quotes α) (t : Int) (x : PfEntry α) (hx : x ∈ b.entries) :
    updE t (b.markTargets q) x = markEntry q t x := by
  suffices hl : x.pf.positions.map (fun pos => (b.markTargets q).foldl (updP x.pf.id t) pos)
      = x.pf.positions.map (markPos q t) by unfold markEntry updE; rw [hl]
  refine List.map_congr_left fun pos hpos => ?_
  have hval : ∀ m ∈ b.markTargets q, m.1 = x.pf.id → m.2.1 = pos.asset → m.2.2 = mid q pos.asset := by
    intro m hm _ h2
    obtain ⟨e, _, pos', _, _, rfl⟩ := (mem_markTargets b q m).mp hm
    exact congrArg (mid q) h2
  rw [foldl_updP _ _ _ _ _ hval]
  unfold markPos mid
  cases hq : q pos.asset with
  | none =>
    refine if_neg ?_
    rintro ⟨m, hm, -, h2⟩
    obtain ⟨e, _, pos', _, hq', rfl⟩ := (mem_markTargets b q m).mp hm
    rw [show pos'.asset = pos.asset from h2, hq] at hq'
    cases hq'
  | some ba =>
    exact if_pos ⟨_, (mem_markTargets b q _).mpr ⟨x, hx, pos, hpos, by rw [hq]; rfl, rfl⟩, rfl, rfl⟩

theorem marks_phase (b : Broker α) (t : Int) (q : Quotes α) (hb : BWF b t)
    (hpos : ∀ e ∈ b.entries, ∀ pos ∈ e.pf.positions, ∀ bid ask,
      q pos.asset = some (bid, ask) → 0 < (bid + ask) / 2) :
    b.marked t q = ({ b with clock := t, entries := b.entries.map (markEntry q t) }, none) := by
  have hb0 : BWF { b with clock := t } t := ⟨hb.ids_nodup, hb.wf⟩
  rw [Broker.marked, runMarks_map_form t _ _ hb0]
  · congr 2
    apply List.map_congr_left
    intro x hx
    exact updE_markTargets { b with clock := t } q t x hx
  · intro m hm
    obtain ⟨e, he, pos, hp, hq, rfl⟩ := (mem_markTargets _ q m).mp hm
    obtain ⟨⟨bid, ask⟩, hq'⟩ := Option.isSome_iff_exists.mp hq
    refine ⟨List.mem_map.mpr ⟨e, he, rfl⟩, ?_⟩
    simp only [mid, hq']
    exact hpos e he pos hp bid ask hq'

/-! ## the marked broker, read through `posOf`; `update` as marks then orders -/

theorem transact_asset (p : Position α) (t : Txn α) : (p.transact t).1.asset = p.asset :=
  Position.transact_asset p t

theorem markPos_asset (q : Quotes α) (t : Int) (pos : Position α) :
    (markPos q t pos).asset = pos.asset := by
  unfold markPos; split <;> rfl

theorem markPos_net (q : Quotes α) (t : Int) (pos : Position α) : (markPos q t pos).net = pos.net := by
  unfold markPos
  split <;> rfl

theorem markPos_clock_le (q : Quotes α) (t : Int) (pos : Position α) (h : pos.clock ≤ t) :
    (markPos q t pos).clock ≤ t := by
  unfold markPos
  split
  · exact le_refl _
  · exact h

theorem posOf_marked (b : Broker α) (q : Quotes α) (t : Int) (pid a : String) :
    posOf { b with clock := t, entries := b.entries.map (markEntry q t) } pid a
      = (posOf b pid a).map (markPos q t) := by
  unfold posOf Broker.find?
  dsimp only
  rw [find?_key_map (fun e : PfEntry α => e.pf.id) (g := markEntry q t) (fun _ => rfl)]
  cases List.find? (fun e : PfEntry α => e.pf.id == pid) b.entries with
  | none => rfl
  | some e => exact Positions.find?_map (markPos_asset q t) e.pf.positions a

theorem drained_marked (b : Broker α) (q : Quotes α) (t : Int) :
    Broker.drained { b with clock := t, entries := b.entries.map (markEntry q t) } = b.drained := by
  unfold Broker.drained
  simp only [List.flatMap_map]
  rfl

theorem update_dom (b : Broker α) (t : Int) (q : Quotes α) (hb : BWF b t)
    (hpos : ∀ e ∈ b.entries, ∀ pos ∈ e.pf.positions, ∀ bid ask,
      q pos.asset = some (bid, ask) → 0 < (bid + ask) / 2) :
    b.update t q =
      if isOpen t then
        Broker.runUntilErr (fun b (x : String × Order) => b.executeOrder q x.1 x.2)
          (Broker.clearQueues { b with clock := t, entries := b.entries.map (markEntry q t) })
          (sellsFirst (fun (x : String × Order) => x.2.isSell)
            (Broker.drained { b with clock := t, entries := b.entries.map (markEntry q t) }))
      else ({ b with clock := t, entries := b.entries.map (markEntry q t) }, none) := by
  rw [update_eq, marks_phase b t q hb hpos]

theorem markTargets_keys_nodup (b : Broker α) (q : Quotes α) (t : Int) (hb : BWF b t) :
    ((b.markTargets q).map (fun m => (m.1, m.2.1))).Nodup := by
  rw [markTargets_eq, List.map_flatMap, List.nodup_flatMap]
  constructor
  · intro e he
    have hk : (List.map (·.asset) (e.pf.positions.filter (fun pos => (q pos.asset).isSome))).Nodup :=
      (List.filter_sublist.map _).nodup (hb.wf e he).nodup
    refine List.Nodup.of_map Prod.snd ?_
    rw [List.map_map, List.map_map]
    exact hk
  · have hids := hb.ids_nodup
    rw [List.nodup_iff_pairwise_ne, List.pairwise_map] at hids
    refine hids.imp ?_
    intro e1 e2 hne x h1 h2
    obtain ⟨m1, hm1, rfl⟩ := List.mem_map.mp h1
    obtain ⟨m2, hm2, heq⟩ := List.mem_map.mp h2
    obtain ⟨p1, _, rfl⟩ := List.mem_map.mp hm1
    obtain ⟨p2, _, rfl⟩ := List.mem_map.mp hm2
    exact hne (Prod.mk.inj heq).1.symm

end field
end C02
end Qs
