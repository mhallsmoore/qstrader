import QsModel.Broker
import QsProofs.Lemmas.PositionsBasic

/-!
# The broker state machine on any carrier

Only the model's notation classes are assumed, so the exact-arithmetic files and the structural ones share these
statements.  `update` is a loop of `applyMark`s, a `clearQueues` and a loop of `executeOrder`s: what each ingredient keeps,
`update` keeps (`update_rule`).  Six of the twelve ops look a portfolio up, call one of its four methods and store what
the call leaves behind: `Broker.call` is that shape and `step_pfOp` says `step` is it, so a property of steps is proved
for `call` once instead of once per op.
The four methods of `Portfolio` are `_flat` here and `_eq` in `Broker`; `mark` and `transactAsset` are `_dom` in
`Holdings` (the suffix rule is in the header of `PositionsBasic`).
-/

set_option linter.unusedSectionVars false

namespace Qs
open NumOps Num

/-! ## `sellsFirst`, `Order.direction` -/

theorem sellsFirst_perm {β : Type} (p : β → Bool) (l : List β) : (sellsFirst p l).Perm l := by
  unfold sellsFirst
  exact List.filter_append_perm p l

theorem mem_sellsFirst {β : Type} (isSell : β → Bool) (l : List β) (x : β) :
    x ∈ sellsFirst isSell l ↔ x ∈ l := (sellsFirst_perm isSell l).mem_iff

theorem sellsFirst_filter {β : Type} (p s : β → Bool) (l : List β) :
    (sellsFirst s l).filter p = sellsFirst s (l.filter p) := by
  simp only [sellsFirst, List.filter_append, List.filter_filter]
  congr 1
  · apply List.filter_congr; intro x _; exact Bool.and_comm _ _
  · apply List.filter_congr; intro x _; exact Bool.and_comm _ _

theorem sellsFirst_map {β γ : Type} (f : β → γ) (s : γ → Bool) (l : List β) :
    (sellsFirst (fun x => s (f x)) l).map f = sellsFirst s (l.map f) := by
  simp only [sellsFirst, List.map_append, List.filter_map, Function.comp_def]

theorem sellsFirst_single {β : Type} (P : β → Bool) (x : β) : sellsFirst P [x] = [x] := by
  unfold sellsFirst
  cases h : P x <;> simp [h]

theorem direction_pos_iff (o : Order) : 0 < o.direction ↔ ¬ o.qty < 0 := by
  by_cases h : o.qty < 0 <;> simp [Order.direction, dirOf, h]

section
variable {α : Type} [Add α] [Sub α] [Mul α] [Div α] [Neg α] [NumOps α]

/-! ## the portfolio methods as decision trees -/

theorem subscribe_flat (p : Portfolio α) (t : Int) (a : α) :
    p.subscribe t a =
      if t < p.clock then (p, some .value)
      else if lt a zero then ({ p with clock := t }, some .value)
      else
        ({ p with clock := t, cash := p.cash + a,
                  history := p.history ++
                    [{ time := t, kind := .subscription, debit := zero, credit := round2 a,
                       balance := round2 (p.cash + a), rawAmount := a, rawBalance := p.cash + a }] }, none) := rfl

theorem withdraw_flat (p : Portfolio α) (t : Int) (a : α) :
    p.withdraw t a =
      if t < p.clock then (p, some .value)
      else if lt a zero then ({ p with clock := t }, some .value)
      else if lt p.cash a then ({ p with clock := t }, some .value)
      else
        ({ p with clock := t, cash := p.cash - a,
                  history := p.history ++
                    [{ time := t, kind := .withdrawal, debit := round2 a, credit := zero,
                       balance := round2 (p.cash - a), rawAmount := a, rawBalance := p.cash - a }] }, none) := rfl

theorem mark_flat (p : Portfolio α) (asset : String) (price : α) (t : Int) :
    p.mark asset price t =
      match Positions.find? p.positions asset with
      | none => (p, none)
      | some pos =>
        if lt price zero then (p, some .value)
        else if t < p.clock then (p, some .value)
        else ({ p with positions := Positions.set p.positions (pos.updatePrice price t).1 },
              (pos.updatePrice price t).2) := by
  unfold Portfolio.mark
  cases Positions.find? p.positions asset <;> rfl

/-- `x` on normal return, else `d` (values and, in hypotheses, propositions) -/
def onOk {β : Type} (o : Outcome) (x d : β) : β := match o with | none => x | some _ => d

@[simp] theorem onOk_self {β : Type} (o : Outcome) (x : β) : onOk o x x = x := by cases o <;> rfl

/-- the event `transact_asset` records, `cash` being the balance before the fill: the sign of the quantity decides the
column of the amount -/
def fillEvent (t : Txn α) (cash : α) : Event α :=
  if t.qty < 0 then
    { time := t.time, kind := .assetTransaction, long := false, qty := t.qty, asset := t.asset, debit := zero,
      credit := ofInt (-1) * round2 (t.price * ofInt t.qty + t.commission),
      balance := round2 (cash - (t.price * ofInt t.qty + t.commission)),
      rawAmount := t.price * ofInt t.qty + t.commission, rawBalance := cash - (t.price * ofInt t.qty + t.commission) }
  else
    { time := t.time, kind := .assetTransaction, long := true, qty := t.qty, asset := t.asset,
      debit := round2 (t.price * ofInt t.qty + t.commission), credit := zero,
      balance := round2 (cash - (t.price * ofInt t.qty + t.commission)),
      rawAmount := t.price * ofInt t.qty + t.commission, rawBalance := cash - (t.price * ofInt t.qty + t.commission) }

/-- the positions are what `transactPosition` leaves also when it raises; the cost is paid and recorded on its normal
return only -/
theorem transactAsset_flat (p : Portfolio α) (t : Txn α) :
    p.transactAsset t =
      if t.time < p.clock then (p, some .value)
      else
        (onOk (p.positions.transactPosition t).2
          { p with clock := t.time, positions := (p.positions.transactPosition t).1,
                   cash := p.cash - (t.price * ofInt t.qty + t.commission),
                   history := p.history ++ [fillEvent t p.cash] }
          { p with clock := t.time, positions := (p.positions.transactPosition t).1 },
         (p.positions.transactPosition t).2) := by
  unfold Portfolio.transactAsset fillEvent
  by_cases h1 : t.time < p.clock
  · rw [if_pos h1, if_pos h1]
  rw [if_neg h1, if_neg h1]
  rcases hps : p.positions.transactPosition t with ⟨ps, _ | e⟩
  · by_cases hq : t.qty < 0
    · have hd : ¬ 0 < dirOf t.qty := by unfold dirOf; rw [if_pos hq]; decide
      simp only [hps, hd, hq, onOk, decide_false, Bool.false_eq_true, if_false, if_true]
    · have hd : 0 < dirOf t.qty := by unfold dirOf; rw [if_neg hq]; decide
      simp only [hps, hd, hq, onOk, decide_true, if_true, if_false]
  · simp only [hps, onOk]

/-! ## portfolios: what a method leaves alone -/

theorem mark_frame (p : Portfolio α) (a : String) (price : α) (t : Int) :
    (p.mark a price t).1.id = p.id ∧ (p.mark a price t).1.cash = p.cash ∧
    (p.mark a price t).1.history = p.history ∧ (p.mark a price t).1.clock = p.clock := by
  rw [mark_flat]
  cases Positions.find? p.positions a with
  | none => exact ⟨rfl, rfl, rfl, rfl⟩
  | some pos => dsimp only; split <;> [skip; split] <;> exact ⟨rfl, rfl, rfl, rfl⟩

theorem transactAsset_id (p : Portfolio α) (t : Txn α) : (p.transactAsset t).1.id = p.id := by
  rw [transactAsset_flat]
  split
  · rfl
  · cases (p.positions.transactPosition t).2 <;> rfl

theorem transactAsset_find?_ne (p : Portfolio α) (t : Txn α) {a : String} (ha : a ≠ t.asset) :
    Positions.find? (p.transactAsset t).1.positions a = Positions.find? p.positions a := by
  rw [transactAsset_flat]
  split
  · rfl
  · cases (p.positions.transactPosition t).2 <;> exact (Positions.find?_transactPosition ..).trans (if_neg ha)

theorem subscribe_id (p : Portfolio α) (t : Int) (a : α) : (p.subscribe t a).1.id = p.id := by
  rw [subscribe_flat]; split <;> [skip; split] <;> rfl

theorem withdraw_id (p : Portfolio α) (t : Int) (a : α) : (p.withdraw t a).1.id = p.id := by
  rw [withdraw_flat]; split <;> [skip; split <;> [skip; split]] <;> rfl

theorem subscribe_positions (p : Portfolio α) (t : Int) (a : α) : (p.subscribe t a).1.positions = p.positions := by
  rw [subscribe_flat]; split <;> [skip; split] <;> rfl

theorem withdraw_positions (p : Portfolio α) (t : Int) (a : α) : (p.withdraw t a).1.positions = p.positions := by
  rw [withdraw_flat]; split <;> [skip; split <;> [skip; split]] <;> rfl

theorem subscribe_clock_le (p : Portfolio α) (t : Int) (a : α) (hc : p.clock ≤ t) : (p.subscribe t a).1.clock ≤ t := by
  rw [subscribe_flat]; split <;> [exact hc; split <;> exact Int.le_refl _]

theorem withdraw_clock_le (p : Portfolio α) (t : Int) (a : α) (hc : p.clock ≤ t) : (p.withdraw t a).1.clock ≤ t := by
  rw [withdraw_flat]; split <;> [exact hc; split <;> [skip; split] <;> exact Int.le_refl _]

theorem mark_pos (p : Portfolio α) (a : String) (price : α) (t : Int) :
    ∀ x ∈ (p.mark a price t).1.positions, ∃ y ∈ p.positions, x.asset = y.asset := by
  intro x hx
  rw [mark_flat] at hx
  split at hx
  · exact ⟨x, hx, rfl⟩
  · split at hx <;> [skip; split at hx] <;> first | exact ⟨x, hx, rfl⟩ | exact Positions.mem_set_asset hx

theorem transactAsset_pos (p : Portfolio α) (t : Txn α) :
    ∀ x ∈ (p.transactAsset t).1.positions, (∃ y ∈ p.positions, x.asset = y.asset) ∨ x.asset = t.asset := by
  intro x hx
  rw [transactAsset_flat] at hx
  split at hx
  · exact .inl ⟨x, hx, rfl⟩
  · refine Positions.transactPosition_pos p.positions t x ?_
    generalize (p.positions.transactPosition t).2 = o at hx
    cases o <;> exact hx

/-! ## the portfolio dictionary: `find?`, `has`, `setPf`, `setEntry` -/

/-- portfolio ids pairwise distinct: what makes `entries` a dictionary (`Qs.WF` of `Lemmas/Orders` and
`C02.BWF.ids_nodup` of `Lemmas/HoldingsBroker` are the same `Nodup`) -/
def UniqueIds (b : Broker α) : Prop := (b.entries.map (·.pf.id)).Nodup

theorem find?_id {b : Broker α} {pid : String} {e : PfEntry α} (h : b.find? pid = some e) : e.pf.id = pid :=
  (find?_key_some (fun e : PfEntry α => e.pf.id) (l := b.entries) h).2

theorem find?_mem {b : Broker α} {pid : String} {e : PfEntry α} (h : b.find? pid = some e) : e ∈ b.entries :=
  List.mem_of_find?_eq_some h

theorem find?_none {b : Broker α} {pid : String} (h : b.find? pid = none) : ∀ e ∈ b.entries, e.pf.id ≠ pid :=
  find?_key_none (fun e : PfEntry α => e.pf.id) (l := b.entries) h

theorem has_iff_find (b : Broker α) (pid : String) : b.has pid = (b.find? pid).isSome :=
  (find?_key_isSome (fun e : PfEntry α => e.pf.id) b.entries pid).symm

theorem find?_of_has {b : Broker α} {pid : String} (h : b.has pid = true) : ∃ e, b.find? pid = some e :=
  Option.isSome_iff_exists.mp ((has_iff_find b pid).symm.trans h)

theorem find?_of_not_has {b : Broker α} {pid : String} (h : b.has pid = false) : b.find? pid = none :=
  Option.not_isSome_iff_eq_none.mp (by rw [← has_iff_find, h]; exact Bool.false_ne_true)

theorem has_iff (b : Broker α) (pid : String) : b.has pid = true ↔ ∃ e ∈ b.entries, e.pf.id = pid := by
  unfold Broker.has
  simp

theorem has_iff_mem (b : Broker α) (pid : String) : b.has pid = true ↔ pid ∈ b.entries.map (·.pf.id) := by
  rw [has_iff, List.mem_map]

theorem has_of_mem {b : Broker α} {e : PfEntry α} (h : e ∈ b.entries) : b.has e.pf.id = true :=
  (has_iff b _).mpr ⟨e, h, rfl⟩

@[simp] theorem setPf_fillLog (b : Broker α) (p : Portfolio α) : (b.setPf p).fillLog = b.fillLog := rfl
@[simp] theorem setPf_master (b : Broker α) (p : Portfolio α) : (b.setPf p).master = b.master := rfl
@[simp] theorem setPf_clock (b : Broker α) (p : Portfolio α) : (b.setPf p).clock = b.clock := rfl
@[simp] theorem setPf_fee (b : Broker α) (p : Portfolio α) : (b.setPf p).fee = b.fee := rfl

def Broker.qview (b : Broker α) : List (String × List Order) := b.entries.map (fun e => (e.pf.id, e.queue))

theorem setPf_qview (b : Broker α) (p : Portfolio α) : (b.setPf p).qview = b.qview := by
  simp only [Broker.qview, Broker.setPf, List.map_map]
  refine List.map_congr_left fun x _ => ?_
  by_cases h : x.pf.id = p.id <;> simp [h]

theorem setPf_ids (b : Broker α) (p : Portfolio α) :
    (b.setPf p).entries.map (·.pf.id) = b.entries.map (·.pf.id) :=
  map_key_upd (fun e : PfEntry α => e.pf.id) (fun x => { x with pf := p }) p.id (fun _ _ => rfl) b.entries

theorem find?_setPf_ne (b : Broker α) (p : Portfolio α) {pid : String} (h : pid ≠ p.id) :
    (b.setPf p).find? pid = b.find? pid :=
  find?_upd_ne (fun e : PfEntry α => e.pf.id) (fun x => { x with pf := p }) p.id (fun _ _ => rfl) h b.entries

theorem find?_setPf_self (b : Broker α) (p : Portfolio α) {e : PfEntry α}
    (h : b.find? p.id = some e) : (b.setPf p).find? p.id = some { e with pf := p } := by
  have := find?_upd_self (fun e : PfEntry α => e.pf.id) (fun x => { x with pf := p }) p.id (fun _ _ => rfl) b.entries
  rw [show List.find? _ b.entries = some e from h] at this
  exact this

theorem find?_single {b : Broker α} {e : PfEntry α} (h : b.entries = [e]) {pid : String} (hid : e.pf.id = pid) :
    b.find? pid = some e := by
  simp [Broker.find?, h, hid]

theorem setPf_single {b : Broker α} {e : PfEntry α} (h : b.entries = [e]) (p : Portfolio α) (hid : p.id = e.pf.id) :
    (b.setPf p).entries = [{ e with pf := p }] := by
  simp [Broker.setPf, h, hid]

theorem setPf_map {γ : Type} {b : Broker α} (hu : UniqueIds b) {pid : String} {e : PfEntry α}
    (hf : b.find? pid = some e) (p : Portfolio α) (hid : p.id = pid) (g : PfEntry α → γ) :
    (b.setPf p).entries.map g =
      b.entries.map (fun x => if x.pf.id = pid then g { e with pf := p } else g x) := by
  subst hid
  exact map_upd_of_unique (fun e : PfEntry α => e.pf.id) (fun x => { x with pf := p }) p.id hu hf g

theorem setPf_map_same {γ : Type} {b : Broker α} {pid : String} {e : PfEntry α}
    (hu : UniqueIds b) (hf : b.find? pid = some e) (p : Portfolio α) (hid : p.id = pid)
    (g : PfEntry α → γ) (hg : g { e with pf := p } = g e) : (b.setPf p).entries.map g = b.entries.map g := by
  subst hid
  exact map_upd_same (fun e : PfEntry α => e.pf.id) (fun x => { x with pf := p }) p.id hu hf g hg

theorem setPf_split {b : Broker α} {pid : String} {e : PfEntry α} (hu : UniqueIds b)
    (h : b.find? pid = some e) (p : Portfolio α) (hp : p.id = pid) :
    ∃ l1 l2, b.entries = l1 ++ e :: l2 ∧ (b.setPf p).entries = l1 ++ { e with pf := p } :: l2 ∧
      (∀ x ∈ l1, x.pf.id ≠ pid) ∧ (∀ x ∈ l2, x.pf.id ≠ pid) ∧ e.pf.id = pid := by
  subst hp
  exact upd_split (fun e : PfEntry α => e.pf.id) (fun x => { x with pf := p }) p.id hu h

theorem submitOrder_none {b : Broker α} {pid : String} (hf : b.find? pid = none) (o : Order) :
    b.submitOrder pid o = (b, some .key) := by
  simp only [Broker.submitOrder, hf]

theorem submitOrder_some {b : Broker α} {pid : String} {e : PfEntry α} (hf : b.find? pid = some e) (o : Order) :
    b.submitOrder pid o = (b.setEntry { e with queue := e.queue ++ [o] }, none) := by
  simp only [Broker.submitOrder, hf]

theorem setEntry_ids (b : Broker α) (e : PfEntry α) :
    (b.setEntry e).entries.map (·.pf.id) = b.entries.map (·.pf.id) :=
  map_key_upd (fun x : PfEntry α => x.pf.id) (fun _ => e) e.pf.id (fun _ _ => rfl) b.entries

/-- `setEntry` stores one entry at every match; with distinct ids there is one match, so an accepted submission is the
keyed update "append `o` to the queue" -/
theorem submitOrder_eq (b : Broker α) (pid : String) (o : Order) (hwf : UniqueIds b) (h : b.has pid = true) :
    b.submitOrder pid o =
      ({ b with
          entries := b.entries.map (fun x => if x.pf.id == pid then { x with queue := x.queue ++ [o] } else x) },
        none) := by
  rw [has_iff_find] at h
  unfold Broker.submitOrder
  split
  · rename_i hf; rw [hf] at h; cases h
  · rename_i e hf
    -- both updates store `{ e with queue := e.queue ++ [o] }` at the one entry with id `pid`
    have key := fun g => map_upd_of_unique (fun e : PfEntry α => e.pf.id) g pid hwf hf id
    simp only [List.map_id] at key
    rw [Broker.setEntry,
      show ({ e with queue := e.queue ++ [o] } : PfEntry α).pf.id = pid from (find?_id hf : e.pf.id = pid),
      key (fun _ => _), key (fun x => { x with queue := x.queue ++ [o] })]

theorem submitOrder_pfs (b : Broker α) (pid : String) (o : Order) (hu : UniqueIds b) :
    (b.submitOrder pid o).1.entries.map (·.pf) = b.entries.map (·.pf) ∧
    (b.submitOrder pid o).1.master = b.master ∧ (b.submitOrder pid o).1.fillLog = b.fillLog := by
  by_cases h : b.has pid = true
  · rw [submitOrder_eq b pid o hu h]
    refine ⟨?_, rfl, rfl⟩
    rw [List.map_map]
    exact List.map_congr_left fun x _ => by rw [Function.comp_apply]; split <;> rfl
  · rw [submitOrder_none (find?_of_not_has (Bool.eq_false_iff.mpr h))]
    exact ⟨rfl, rfl, rfl⟩

/-! ## the transaction `_execute_order` builds -/

/-- priced at the bid for a sell (`qty < 0`), at the ask otherwise -/
def fillOf (clock : Int) (fee : FeeModel α) (o : Order) (bid ask : α) : Txn α :=
  let price := if o.qty < 0 then bid else ask
  { asset := o.asset, qty := o.qty, time := clock, price := price,
    commission := fee.totalCost (ofInt (roundHalfEvenI (price * ofInt o.qty))), orderId := o.id }

theorem makeTxn_eq (b : Broker α) (q : Quotes α) (o : Order) :
    b.makeTxn q o = match q o.asset with
      | none => .error .value
      | some (bid, ask) => .ok (fillOf b.clock b.fee o bid ask) := by
  unfold Broker.makeTxn fillOf
  rcases q o.asset with _ | ⟨bid, ask⟩
  · rfl
  · simp only [direction_pos_iff, ite_not]

theorem makeTxn_congr {b b' : Broker α} (hc : b'.clock = b.clock) (hf : b'.fee = b.fee) (q : Quotes α) (o : Order) :
    b'.makeTxn q o = b.makeTxn q o := by
  rw [makeTxn_eq, makeTxn_eq, hc, hf]

theorem makeTxn_ok {b : Broker α} {q : Quotes α} {o : Order} {tx : Txn α} (h : b.makeTxn q o = .ok tx) :
    ∃ bid ask, q o.asset = some (bid, ask) ∧ tx = fillOf b.clock b.fee o bid ask := by
  rw [makeTxn_eq] at h
  split at h
  · cases h
  · rename_i bid ask hq
    cases h
    exact ⟨bid, ask, hq, rfl⟩

/-! ## induction over `runUntilErr`, `update`, `run` -/

theorem runUntilErr_inv_mem {β : Type} (f : Broker α → β → Broker α × Option Err) (I : Broker α → Prop) :
    ∀ (l : List β), (∀ b, ∀ x ∈ l, I b → I (f b x).1) → ∀ b, I b → I (Broker.runUntilErr f b l).1
  | [], _, _, hb => hb
  | x :: xs, h, b, hb => by
    have h1 := h b x List.mem_cons_self hb
    unfold Broker.runUntilErr
    rcases hr : f b x with ⟨b', _ | e⟩ <;> rw [hr] at h1
    · exact runUntilErr_inv_mem f I xs (fun b y hy => h b y (List.mem_cons_of_mem _ hy)) b' h1
    · exact h1

theorem runUntilErr_inv {β : Type} (f : Broker α → β → Broker α × Option Err) (I : Broker α → Prop)
    (h : ∀ b x, I b → I (f b x).1) (l : List β) (b : Broker α) : I b → I (Broker.runUntilErr f b l).1 :=
  runUntilErr_inv_mem f I l (fun b x _ => h b x) b

theorem runUntilErr_ok {β : Type} (f : Broker α → β → Broker α × Option Err) (I : Broker α → Prop)
    (P : β → Prop) (h : ∀ b x, I b → P x → (f b x).2 = none ∧ I (f b x).1) :
    ∀ (l : List β) (b : Broker α), I b → (∀ x ∈ l, P x) →
      (Broker.runUntilErr f b l).2 = none ∧ I (Broker.runUntilErr f b l).1
  | [], b, hb, _ => ⟨rfl, hb⟩
  | x :: xs, b, hb, hl => by
    have h1 := h b x hb (hl x (List.mem_cons_self ..))
    simp only [Broker.runUntilErr]
    rcases hfx : f b x with ⟨b', _ | e⟩
    · rw [hfx] at h1
      exact runUntilErr_ok f I P h xs b' h1.2 (fun y hy => hl y (List.mem_cons_of_mem _ hy))
    · rw [hfx] at h1; simp at h1

theorem runUntilErr_map {β γ : Type} (e : Broker α → Broker α) {f : Broker α → β → Broker α × Option Err}
    {g : Broker α → γ → Broker α × Option Err} {h : β → γ}
    (H : ∀ b x, Prod.map e id (f b x) = g (e b) (h x)) (b : Broker α) (xs : List β) :
    Prod.map e id (Broker.runUntilErr f b xs) = Broker.runUntilErr g (e b) (xs.map h) := by
  induction xs generalizing b with
  | nil => rfl
  | cons x xs ih =>
    rw [List.map_cons, Broker.runUntilErr, Broker.runUntilErr, ← H]
    rcases f b x with ⟨b1, _ | err⟩
    · exact ih b1
    · rfl

/-- **rule for `broker.update(dt)`, any outcome.** `I` is kept by setting the clock and by every mark; if the update
stops there (mark error, or outside hours) `I` gives `J`; inside hours the queues are cleared
(`I b1 → K b1 b1.clearQueues`) and `K b1` is kept by executing any order that was queued in `b1`. -/
theorem update_rule {I J : Broker α → Prop} {K : Broker α → Broker α → Prop} (b : Broker α) (t : Int) (q : Quotes α)
    (hmark : ∀ b' pid a pr, I b' → I (b'.applyMark pid a pr t).1)
    (hstop : ∀ b1, I b1 → J b1)
    (hclear : ∀ b1, I b1 → isOpen t = true → K b1 b1.clearQueues)
    (hexec : ∀ b1 b', ∀ x ∈ b1.drained, K b1 b' → K b1 (b'.executeOrder q x.1 x.2).1)
    (hdone : ∀ b1 b', K b1 b' → J b')
    (h0 : I { b with clock := t }) : J (b.update t q).1 := by
  have hm := runUntilErr_inv (fun b (m : String × String × α) => b.applyMark m.1 m.2.1 m.2.2 t) I
    (fun b' x hb' => hmark b' _ _ _ hb') (Broker.markTargets { b with clock := t } q) _ h0
  unfold Broker.update
  simp only []
  generalize Broker.runUntilErr _ _ _ = r at hm
  rcases r with ⟨b1, _ | e⟩
  · simp only
    split
    · -- the batch is a permutation of the drained queues; the invariant needs membership only
      exact hdone b1 _ (runUntilErr_inv_mem _ (K b1) _
        (fun b' x hx => hexec b1 b' x ((sellsFirst_perm _ _).mem_iff.mp hx)) _ (hclear b1 hm ‹_›))
    · exact hstop b1 hm
  · exact hstop b1 hm

/-- `update_rule` with one predicate throughout; an order that gets no quote changes nothing, so the execution step is
asked for the transaction only -/
theorem update_inv {I : Broker α → Prop} (b : Broker α) (t : Int) (q : Quotes α)
    (hmark : ∀ b pid a p, I b → I (b.applyMark pid a p t).1)
    (hclear : ∀ b, I b → I b.clearQueues)
    (htxn : ∀ b pid o tx, b.makeTxn q o = .ok tx → I b → I (b.applyTxn pid tx).1)
    (h0 : I { b with clock := t }) : I (b.update t q).1 :=
  update_rule (I := I) (J := I) (K := fun _ => I) b t q hmark (fun _ h => h) (fun b1 h _ => hclear b1 h)
    (fun _ b' x _ hI => by
      unfold Broker.executeOrder
      split
      · exact hI
      · rename_i tx htx; exact htxn b' x.1 x.2 tx htx hI)
    (fun _ _ h => h) h0

/-- the state after the marking phase of `update` -/
def Broker.marked (b : Broker α) (t : Int) (q : Quotes α) : Broker α × Option Err :=
  Broker.runUntilErr (fun b (m : String × String × α) => b.applyMark m.1 m.2.1 m.2.2 t)
    { b with clock := t } (Broker.markTargets { b with clock := t } q)

theorem update_eq (b : Broker α) (t : Int) (q : Quotes α) :
    b.update t q =
      match b.marked t q with
      | (b1, some e) => (b1, some e)
      | (b1, none) =>
        if isOpen t then
          Broker.runUntilErr (fun b (x : String × Order) => b.executeOrder q x.1 x.2) b1.clearQueues
            (sellsFirst (fun (x : String × Order) => x.2.isSell) b1.drained)
        else (b1, none) := rfl

theorem update_eq_marked (b : Broker α) (t : Int) (q : Quotes α) (h : isOpen t = false ∨ (b.marked t q).2 ≠ none) :
    b.update t q = b.marked t q := by
  rw [update_eq]
  generalize b.marked t q = r at h ⊢
  rcases r with ⟨b1, _ | e⟩
  · exact h.elim (fun h => by simp only [h, Bool.false_eq_true, if_false]) (fun h => absurd rfl h)
  · rfl

/-- `create` is the one op that adds a portfolio; the others are treated together -/
theorem Op.create_or (op : Op α) : (∃ pid, op = .create pid) ∨ ∀ pid, op ≠ .create pid := by
  cases op <;> first | exact .inl ⟨_, rfl⟩ | exact .inr fun _ h => nomatch h

theorem run_induction {I : Broker α → Prop} (h : ∀ b op, I b → I (step b op).1) :
    ∀ (ops : List (Op α)) (b : Broker α), I b → I (run b ops)
  | [], _, hb => hb
  | o :: os, b, hb => run_induction h os _ (h b o hb)

/-! ## the six ops directed at one portfolio, in the shape they share -/

/-- a call of one of the four mutating `Portfolio` methods -/
inductive PfCall (α : Type)
  | subscribe (t : Int) (a : α)
  | withdraw (t : Int) (a : α)
  | transact (t : Txn α)
  | mark (asset : String) (price : α) (t : Int)

def PfCall.run : PfCall α → Portfolio α → Portfolio α × Option Err
  | .subscribe t a, p => p.subscribe t a
  | .withdraw t a, p => p.withdraw t a
  | .transact t, p => p.transactAsset t
  | .mark s pr t, p => p.mark s pr t

theorem PfCall.run_id (c : PfCall α) (p : Portfolio α) : (c.run p).1.id = p.id := by
  cases c with
  | subscribe t a => exact subscribe_id p t a
  | withdraw t a => exact withdraw_id p t a
  | transact t => exact transactAsset_id p t
  | mark s pr t => exact (mark_frame p s pr t).1

/-- the fills an accepted call logs -/
def PfCall.fills (pid : String) : PfCall α → List (String × Txn α)
  | .transact t => [(pid, t)]
  | _ => []

/-- look portfolio `pid` up, call `c` on it, store what it leaves behind (also when it raises); on normal return
the master balance becomes `m` and the call's fills are logged -/
def Broker.call (b : Broker α) (pid : String) (c : PfCall α) (m : α) : Broker α × Option Err :=
  match b.find? pid with
  | none => (b, some .key)
  | some e =>
    match c.run e.pf with
    | (pf, some err) => (b.setPf pf, some err)
    | (pf, none) => ({ (b.setPf pf) with master := m, fillLog := b.fillLog ++ c.fills pid }, none)

theorem call_none {b : Broker α} {pid : String} (hf : b.find? pid = none) (c : PfCall α) (m : α) :
    b.call pid c m = (b, some .key) := by
  simp only [Broker.call, hf]

theorem call_some {b : Broker α} {pid : String} {e : PfEntry α} (hf : b.find? pid = some e) (c : PfCall α)
    (m : α) :
    b.call pid c m =
      match (c.run e.pf).2 with
      | some err => (b.setPf (c.run e.pf).1, some err)
      | none => ({ (b.setPf (c.run e.pf).1) with master := m, fillLog := b.fillLog ++ c.fills pid }, none) := by
  simp only [Broker.call, hf]
  rcases c.run e.pf with ⟨pf, _ | err⟩ <;> rfl

theorem call_out (b : Broker α) (pid : String) (c : PfCall α) (m : α) :
    (b.call pid c m).2 = match b.find? pid with | none => some .key | some e => (c.run e.pf).2 := by
  cases hf : b.find? pid with
  | none => rw [call_none hf]
  | some e => rw [call_some hf]; cases hr : (c.run e.pf).2 <;> simp only [hr]

theorem call_fillLog (b : Broker α) (pid : String) (c : PfCall α) (m : α) :
    (b.call pid c m).1.fillLog = b.fillLog ++ onOk (b.call pid c m).2 (c.fills pid) [] := by
  cases hf : b.find? pid with
  | none => rw [call_none hf]; exact (List.append_nil _).symm
  | some e => rw [call_some hf]; cases (c.run e.pf).2 <;> simp only [onOk, setPf_fillLog, List.append_nil]

theorem call_fillLog_of_nil (b : Broker α) {pid : String} {c : PfCall α} (m : α) (hc : c.fills pid = []) :
    (b.call pid c m).1.fillLog = b.fillLog := by
  rw [call_fillLog, hc, onOk_self, List.append_nil]

theorem call_ids (b : Broker α) (pid : String) (c : PfCall α) (m : α) :
    (b.call pid c m).1.entries.map (·.pf.id) = b.entries.map (·.pf.id) := by
  cases hf : b.find? pid with
  | none => rw [call_none hf]
  | some e => rw [call_some hf]; cases (c.run e.pf).2 <;> exact setPf_ids b _

theorem call_frame (b : Broker α) (pid : String) (c : PfCall α) (m : α) :
    (b.call pid c m).1.qview = b.qview ∧ (b.call pid c m).1.clock = b.clock ∧ (b.call pid c m).1.fee = b.fee ∧
    (b.call pid c m).1.master = onOk (b.call pid c m).2 m b.master ∧
    (c.fills pid = [] → (b.call pid c m).1.fillLog = b.fillLog) := by
  refine ⟨?_, ?_, ?_, ?_, call_fillLog_of_nil b m⟩ <;>
    cases hf : b.find? pid with
    | none => rw [call_none hf] <;> rfl
    | some e => rw [call_some hf]; cases (c.run e.pf).2 <;> first | rfl | exact setPf_qview _ _

theorem call_map {γ : Type} (b : Broker α) (hu : UniqueIds b) (pid : String) (c : PfCall α) (m : α) (g : PfEntry α → γ)
    (hg : ∀ e : PfEntry α, (c.run e.pf).1.id = e.pf.id ∧ g { e with pf := (c.run e.pf).1 } = g e) :
    (b.call pid c m).1.entries.map g = b.entries.map g := by
  cases hf : b.find? pid with
  | none => rw [call_none hf]
  | some e =>
    have : (b.call pid c m).1.entries = (b.setPf (c.run e.pf).1).entries := by
      rw [call_some hf]; cases (c.run e.pf).2 <;> rfl
    rw [this, setPf_map_same hu hf _ ((hg e).1.trans (find?_id hf)) g (hg e).2]

/-- `pfSubscribe`, `pfWithdraw`, `applyMark` hand back whatever the method returns: a call that keeps the master
balance and logs nothing -/
theorem call_direct (b : Broker α) (pid : String) (c : PfCall α) (hc : c.fills pid = []) :
    b.call pid c b.master =
      match b.find? pid with
      | none => (b, some .key)
      | some e => (b.setPf (c.run e.pf).1, (c.run e.pf).2) := by
  unfold Broker.call
  cases b.find? pid with
  | none => rfl
  | some e => rcases hr : c.run e.pf with ⟨pf, _ | err⟩ <;> simp only [hr, hc, List.append_nil]; rfl

theorem applyMark_eq_call (b : Broker α) (pid s : String) (p : α) (t : Int) :
    b.applyMark pid s p t = b.call pid (.mark s p t) b.master := (call_direct b pid (.mark s p t) rfl).symm

theorem pfSubscribe_eq_call (b : Broker α) (pid : String) (t : Int) (a : α) :
    b.pfSubscribe pid t a = b.call pid (.subscribe t a) b.master := (call_direct b pid (.subscribe t a) rfl).symm

theorem pfWithdraw_eq_call (b : Broker α) (pid : String) (t : Int) (a : α) :
    b.pfWithdraw pid t a = b.call pid (.withdraw t a) b.master := (call_direct b pid (.withdraw t a) rfl).symm

theorem applyTxn_eq_call (b : Broker α) (pid : String) (t : Txn α) :
    b.applyTxn pid t = b.call pid (.transact t) b.master := rfl

theorem applyMark_qview (b : Broker α) (pid a : String) (price : α) (t : Int) :
    (b.applyMark pid a price t).1.qview = b.qview := by
  rw [applyMark_eq_call]; exact (call_frame b pid (.mark a price t) b.master).1

theorem applyMark_clock (b : Broker α) (pid a : String) (price : α) (t : Int) :
    (b.applyMark pid a price t).1.clock = b.clock := by
  rw [applyMark_eq_call]; exact (call_frame b pid (.mark a price t) b.master).2.1

theorem applyMark_fillLog (b : Broker α) (pid a : String) (price : α) (t : Int) :
    (b.applyMark pid a price t).1.fillLog = b.fillLog := by
  rw [applyMark_eq_call]; exact call_fillLog_of_nil b _ rfl

/-- `subscribe_funds_to_portfolio`: the amount, then the portfolio id (`KeyError`), then the master balance are
checked; what is left is a call of `subscribe_funds` that takes the amount off the master balance -/
theorem subscribePortfolio_eq_call (b : Broker α) (pid : String) (a : α) :
    b.subscribePortfolio pid a =
      if lt a zero || (b.find? pid).any (fun _ => lt b.master a) then (b, some .value)
      else b.call pid (.subscribe b.clock a) (b.master - a) := by
  unfold Broker.subscribePortfolio Broker.call
  cases lt a zero
  · cases b.find? pid with
    | none => rfl
    | some e =>
      rw [Bool.false_or, Option.any_some]
      cases lt b.master a
      · rcases hs : e.pf.subscribe b.clock a with ⟨pf, _ | err⟩ <;>
          simp only [PfCall.run, PfCall.fills, hs, List.append_nil] <;> rfl
      · rfl
  · rfl

/-- `withdraw_funds_from_portfolio`: as above, the last check being the portfolio's own cash -/
theorem withdrawPortfolio_eq_call (b : Broker α) (pid : String) (a : α) :
    b.withdrawPortfolio pid a =
      if lt a zero || (b.find? pid).any (fun e => lt e.pf.cash a) then (b, some .value)
      else b.call pid (.withdraw b.clock a) (b.master + a) := by
  unfold Broker.withdrawPortfolio Broker.call
  cases lt a zero
  · cases b.find? pid with
    | none => rfl
    | some e =>
      rw [Bool.false_or, Option.any_some]
      dsimp only
      cases lt e.pf.cash a
      · rcases hs : e.pf.withdraw b.clock a with ⟨pf, _ | err⟩ <;>
          simp only [PfCall.run, PfCall.fills, hs, List.append_nil] <;> rfl
      · rfl
  · rfl

/-- The six portfolio-directed ops: the broker's own check (a refusal before anything is touched), the portfolio,
the method called on it, the master balance after normal return.  The check of `subPf` / `wdPf` is written with
`(find? pid).any`: an unknown id is no refusal here, it is the `KeyError` of the call that follows (the code tests the
id between the sign of the amount and the balance). -/
def pfOp (b : Broker α) : Op α → Option (Bool × String × PfCall α × α)
  | .subPf pid a =>
    some (lt a zero || (b.find? pid).any (fun _ => lt b.master a), pid, .subscribe b.clock a, b.master - a)
  | .wdPf pid a =>
    some (lt a zero || (b.find? pid).any (fun e => lt e.pf.cash a), pid, .withdraw b.clock a, b.master + a)
  | .applyTxn pid t => some (false, pid, .transact t, b.master)
  | .applyMark pid s p t => some (false, pid, .mark s p t, b.master)
  | .pfSubscribe pid t a => some (false, pid, .subscribe t a, b.master)
  | .pfWithdraw pid t a => some (false, pid, .withdraw t a, b.master)
  | _ => none

theorem step_pfOp {b : Broker α} {op : Op α} {g : Bool} {pid : String} {c : PfCall α} {m : α}
    (h : pfOp b op = some (g, pid, c, m)) :
    step b op = if g then (b, some .value) else b.call pid c m := by
  cases op with
  | subPf pid' a => cases h; exact subscribePortfolio_eq_call b pid a
  | wdPf pid' a => cases h; exact withdrawPortfolio_eq_call b pid a
  | applyTxn pid' t => cases h; rfl
  | applyMark pid' s p t => cases h; exact applyMark_eq_call b pid s p t
  | pfSubscribe pid' t a => cases h; exact pfSubscribe_eq_call b pid t a
  | pfWithdraw pid' t a => cases h; exact pfWithdraw_eq_call b pid t a
  | _ => simp only [pfOp, reduceCtorEq] at h

/-- the twelve ops: six calls of a portfolio method (`step_pfOp`) and six that are treated one by one -/
theorem Op.pfOp_or (b : Broker α) (op : Op α) :
    (∃ g pid c m, pfOp b op = some (g, pid, c, m)) ∨ (∃ a, op = .subAcct a) ∨ (∃ a, op = .wdAcct a) ∨
    (∃ pid, op = .create pid) ∨ (∃ pid o, op = .submit pid o) ∨ (∃ t q, op = .update t q) ∨ ∃ t, op = .setClock t := by
  cases op <;> first
    | exact .inl ⟨_, _, _, _, rfl⟩ | exact .inr (.inl ⟨_, rfl⟩) | exact .inr (.inr (.inl ⟨_, rfl⟩))
    | exact .inr (.inr (.inr (.inl ⟨_, rfl⟩))) | exact .inr (.inr (.inr (.inr (.inl ⟨_, _, rfl⟩))))
    | exact .inr (.inr (.inr (.inr (.inr (.inl ⟨_, _, rfl⟩))))) | exact .inr (.inr (.inr (.inr (.inr (.inr ⟨_, rfl⟩)))))

/-- an account op refused leaves the broker as it was; accepted, it has written the master balance and nothing else -/
theorem subscribeAccount_cases (b : Broker α) (a : α) :
    (∃ e, b.subscribeAccount a = (b, some e)) ∨ b.subscribeAccount a = ({ b with master := b.master + a }, none) := by
  unfold Broker.subscribeAccount; split <;> [exact .inl ⟨_, rfl⟩; exact .inr rfl]

theorem withdrawAccount_cases (b : Broker α) (a : α) :
    (∃ e, b.withdrawAccount a = (b, some e)) ∨ b.withdrawAccount a = ({ b with master := b.master - a }, none) := by
  unfold Broker.withdrawAccount; split <;> [exact .inl ⟨_, rfl⟩; split <;> [exact .inl ⟨_, rfl⟩; exact .inr rfl]]

theorem subscribeAccount_frame (b : Broker α) (a : α) :
    (b.subscribeAccount a).1 = { b with master := (b.subscribeAccount a).1.master } := by
  rcases subscribeAccount_cases b a with ⟨e, h⟩ | h <;> rw [h]

theorem withdrawAccount_frame (b : Broker α) (a : α) :
    (b.withdrawAccount a).1 = { b with master := (b.withdrawAccount a).1.master } := by
  rcases withdrawAccount_cases b a with ⟨e, h⟩ | h <;> rw [h]

/-- `submitOrder` writes the entries and nothing else, and keeps their ids -/
theorem submitOrder_frame (b : Broker α) (pid : String) (o : Order) :
    (b.submitOrder pid o).1 = { b with entries := (b.submitOrder pid o).1.entries } := by
  cases hf : b.find? pid with
  | none => rw [submitOrder_none hf]
  | some e => rw [submitOrder_some hf]; rfl

theorem submitOrder_fillLog (b : Broker α) (pid : String) (o : Order) :
    (b.submitOrder pid o).1.fillLog = b.fillLog :=
  congrArg (·.fillLog) (submitOrder_frame b pid o)

theorem submitOrder_ids (b : Broker α) (pid : String) (o : Order) :
    (b.submitOrder pid o).1.entries.map (·.pf.id) = b.entries.map (·.pf.id) := by
  cases hf : b.find? pid with
  | none => rw [submitOrder_none hf]
  | some e => rw [submitOrder_some hf]; exact setEntry_ids b _

/-! ## ids under `clearQueues`, `createPortfolio` and a `step` -/

theorem pfs_ids {b b' : Broker α} (h : b'.entries.map (·.pf) = b.entries.map (·.pf)) :
    b'.entries.map (·.pf.id) = b.entries.map (·.pf.id) := by
  have := congrArg (List.map (fun p : Portfolio α => p.id)) h
  simpa [List.map_map, Function.comp_def] using this

theorem clearQueues_pfs (b : Broker α) : b.clearQueues.entries.map (·.pf) = b.entries.map (·.pf) := by
  rw [Broker.clearQueues, List.map_map]; rfl

theorem mem_clearQueues {b : Broker α} {e' : PfEntry α} :
    e' ∈ b.clearQueues.entries ↔ ∃ e ∈ b.entries, { e with queue := [] } = e' := List.mem_map

theorem clearQueues_ids (b : Broker α) :
    b.clearQueues.entries.map (·.pf.id) = b.entries.map (·.pf.id) := pfs_ids (clearQueues_pfs b)

theorem forall₂_ids {R : PfEntry α → PfEntry α → Prop} {l l' : List (PfEntry α)}
    (h : List.Forall₂ R l l') (hR : ∀ e e', R e e' → e'.pf.id = e.pf.id) :
    l'.map (·.pf.id) = l.map (·.pf.id) := by
  induction h with
  | nil => rfl
  | cons hab _ ih => simp only [List.map_cons, ih, hR _ _ hab]

theorem has_eq_of_ids {b b' : Broker α} (h : b'.entries.map (·.pf.id) = b.entries.map (·.pf.id))
    (pid : String) : b'.has pid = b.has pid :=
  Bool.eq_iff_iff.mpr (by rw [has_iff_mem, has_iff_mem, h])

theorem uniqueIds_of_ids {b b' : Broker α}
    (h : b'.entries.map (·.pf.id) = b.entries.map (·.pf.id)) (hu : UniqueIds b) : UniqueIds b' := by
  unfold UniqueIds at *; rw [h]; exact hu

theorem create_entries (b : Broker α) (pid : String) :
    (b.createPortfolio pid).1.master = b.master ∧ (b.createPortfolio pid).1.fillLog = b.fillLog ∧
    ((b.createPortfolio pid).2 = some .value ∧ b.has pid = true ∧ (b.createPortfolio pid).1 = b ∨
     (b.createPortfolio pid).2 = none ∧ b.has pid = false ∧
       (b.createPortfolio pid).1.entries = b.entries ++ [{ pf := Portfolio.new pid b.clock }]) := by
  unfold Broker.createPortfolio
  split
  · rename_i h; exact ⟨rfl, rfl, .inl ⟨rfl, h, rfl⟩⟩
  · rename_i h; exact ⟨rfl, rfl, .inr ⟨rfl, by simpa using h, rfl⟩⟩

theorem createPortfolio_clock (b : Broker α) (pid : String) : (b.createPortfolio pid).1.clock = b.clock := by
  unfold Broker.createPortfolio; split <;> rfl

theorem create_mem {b : Broker α} (pid : String) {e : PfEntry α} (he : e ∈ b.entries) :
    e ∈ (b.createPortfolio pid).1.entries := by
  obtain ⟨-, -, ⟨-, -, h⟩ | ⟨-, -, h⟩⟩ := create_entries b pid <;> rw [h]
  · exact he
  · exact List.mem_append_left _ he

theorem create_forall {b : Broker α} {pid : String} {P : PfEntry α → Prop} (h : ∀ e ∈ b.entries, P e)
    (hnew : b.has pid = false → P { pf := Portfolio.new pid b.clock }) :
    ∀ e ∈ (b.createPortfolio pid).1.entries, P e := by
  obtain ⟨-, -, ⟨-, -, he⟩ | ⟨-, hno, he⟩⟩ := create_entries b pid <;> rw [he]
  · exact h
  · intro e hmem
    rcases List.mem_append.mp hmem with hmem | hmem
    · exact h e hmem
    · rw [List.mem_singleton.mp hmem]; exact hnew hno

theorem createPortfolio_unique (b : Broker α) (pid : String) (hu : UniqueIds b) :
    UniqueIds (b.createPortfolio pid).1 := by
  obtain ⟨-, -, ⟨-, -, he⟩ | ⟨-, hno, he⟩⟩ := create_entries b pid <;> unfold UniqueIds <;> rw [he]
  · exact hu
  · rw [List.map_append]
    refine List.nodup_append_comm.mp (List.nodup_cons.mpr ⟨fun hm => ?_, hu⟩)
    rw [(has_iff_mem b pid).mpr hm] at hno
    cases hno

/-- the five ops that are neither a portfolio call nor `update` leave the broker as it is when refused.  A portfolio call
refused by the broker's guard returns `b` too (`step_pfOp`, `g = true`); refused by the method, it stores what the method
leaves -/
theorem step_refused_of_pfOp_none (b : Broker α) (op : Op α) (hop : pfOp b op = none) (hnu : ∀ t q, op ≠ .update t q)
    {e : Err} (h : (step b op).2 = some e) : (step b op).1 = b := by
  rcases op.pfOp_or b with ⟨g, pid, c, m, hop'⟩ | ⟨a, rfl⟩ | ⟨a, rfl⟩ | ⟨pid, rfl⟩ | ⟨pid, o, rfl⟩ | ⟨t, q, rfl⟩ | ⟨t, rfl⟩
  · rw [hop] at hop'; cases hop'
  · rcases subscribeAccount_cases b a with ⟨e', h'⟩ | h' <;> simp only [step, h'] at h ⊢; cases h
  · rcases withdrawAccount_cases b a with ⟨e', h'⟩ | h' <;> simp only [step, h'] at h ⊢; cases h
  · obtain ⟨-, -, ⟨-, -, h'⟩ | ⟨ho, -, -⟩⟩ := create_entries b pid
    · exact h'
    · rw [step, ho] at h; cases h
  · cases hf : b.find? pid with
    | none => simp only [step, submitOrder_none hf]
    | some e' => simp only [step, submitOrder_some hf] at h; cases h
  · exact absurd rfl (hnu t q)
  · cases h

theorem step_ids (b : Broker α) (op : Op α) (hc : ∀ pid, op ≠ .create pid) :
    (step b op).1.entries.map (·.pf.id) = b.entries.map (·.pf.id) := by
  rcases op.pfOp_or b with ⟨g, pid, c, m, hop⟩ | ⟨a, rfl⟩ | ⟨a, rfl⟩ | ⟨pid, rfl⟩ | ⟨pid, o, rfl⟩ | ⟨t, q, rfl⟩ | ⟨t, rfl⟩
  · rw [step_pfOp hop]; cases g <;> [exact call_ids b pid c m; rfl]
  · exact congrArg (fun b' => b'.entries.map (·.pf.id)) (subscribeAccount_frame b a)
  · exact congrArg (fun b' => b'.entries.map (·.pf.id)) (withdrawAccount_frame b a)
  · exact absurd rfl (hc pid)
  · exact submitOrder_ids b pid o
  · exact update_inv (I := fun b' => b'.entries.map (·.pf.id) = b.entries.map (·.pf.id)) b t q
      (fun b' pid a p h => by rw [applyMark_eq_call, call_ids, h])
      (fun b' h => (clearQueues_ids b').trans h)
      (fun b' pid _ tx _ h => by rw [applyTxn_eq_call, call_ids, h]) rfl
  · rfl

theorem step_uniqueIds (b : Broker α) (op : Op α) (hu : UniqueIds b) : UniqueIds (step b op).1 := by
  rcases op.create_or with ⟨pid, rfl⟩ | hc
  · exact createPortfolio_unique b pid hu
  · exact uniqueIds_of_ids (step_ids b op hc) hu

/-! ## before the first order: no positions, empty queues, no fills -/

theorem new_fresh {t : Int} {funds : α} {fee : FeeModel α} {b : Broker α} (h : Broker.new t funds fee = .ok b) :
    b.entries = [] ∧ b.fillLog = [] := by
  unfold Broker.new at h
  split at h <;> cases h
  exact ⟨rfl, rfl⟩

theorem createPortfolio_fresh (b : Broker α) (pid : String)
    (h : ∀ e ∈ b.entries, e.pf.positions = [] ∧ e.queue = []) :
    (∀ e ∈ (b.createPortfolio pid).1.entries, e.pf.positions = [] ∧ e.queue = []) ∧
    (b.createPortfolio pid).1.fillLog = b.fillLog :=
  ⟨create_forall h (fun _ => ⟨rfl, rfl⟩), (create_entries b pid).2.1⟩

theorem subscribePortfolio_fresh (b : Broker α) (pid : String) (amount : α)
    (h : ∀ e ∈ b.entries, e.pf.positions = [] ∧ e.queue = []) :
    (∀ e ∈ (b.subscribePortfolio pid amount).1.entries, e.pf.positions = [] ∧ e.queue = []) ∧
    (b.subscribePortfolio pid amount).1.fillLog = b.fillLog := by
  rw [subscribePortfolio_eq_call]
  split
  · exact ⟨h, rfl⟩
  refine ⟨fun e he => ?_, call_fillLog_of_nil b _ rfl⟩
  cases hf : b.find? pid with
  | none => rw [call_none hf] at he; exact h e he
  | some e0 =>
    have he' : e ∈ (b.setPf (e0.pf.subscribe b.clock amount).1).entries := by
      rw [call_some hf] at he; revert he; cases (PfCall.run (.subscribe b.clock amount) e0.pf).2 <;> exact id
    rcases mem_upd (fun e : PfEntry α => e.pf.id) _ _ he' with h1 | ⟨x, hx, _, rfl⟩
    · exact h e h1
    · exact ⟨(subscribe_positions ..).trans (h e0 (find?_mem hf)).1, (h x hx).2⟩

end
end Qs
