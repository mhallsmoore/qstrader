import QsProofs.Inst
import QsModel.Market

/-!
# Lemmas for C06 — the market-data pipeline and the data handler

The pipeline (sort the bars, two rows per bar, forward fill, pad lookup) is one left `scan` of the sorted rows; the
specification (`IsLatest`, `NoneObserved`) speaks of the rows in any order.  The value type `α` is generic: the only
arithmetic is inside `expandBar`'s adjusted open, which stays opaque (the theorems say *which row's value* is returned).
Last, for C07: two sources that hold the same bars up to a day answer alike up to that day's last second (`srcVal_upTo`).
-/

-- the lemmas carry the model's notation classes as one block
set_option linter.unusedSectionVars false

namespace Qs

/-! ## Specification predicates (about an arbitrary list of rows, in any order) -/

/-- `r` is the latest *observed* (non-missing) row at or before `t` -/
def IsLatest {α : Type} (rows : List (Row α)) (t : Int) (r : Row α) : Prop :=
  r ∈ rows ∧ r.time ≤ t ∧ r.val.isSome ∧
    ∀ r' ∈ rows, r'.time ≤ t → r'.val.isSome → r'.time ≤ r.time

def NoneObserved {α : Type} (rows : List (Row α)) (t : Int) : Prop :=
  ∀ r ∈ rows, r.time ≤ t → r.val = none

section
variable {α : Type}

/-! ## `ffill` + `padLookup` = `scan` (the form of the pipeline the proofs work with; not part of the specification) -/

/-- the forward-fill carry after consuming every row with time `≤ t`, one pass over the list -/
def scan (t : Int) : Option α → List (Row α) → Option α
  | c, [] => c
  | c, r :: rs => if r.time ≤ t then scan t (r.val.or c) rs else c

/-- `tm` is the time of a dummy row carrying the current fill value `v`: it stands for "the last row taken so far", so
that the statement has the same shape before the first row is taken and the induction goes through. -/
theorem tw_ffill_last (t : Int) (tm : Int) (v : Option α) (rs : List (Row α)) :
    (((ffill v rs).takeWhile (fun r => decide (r.time ≤ t))).getLast?.getD ⟨tm, v⟩).val = scan t v rs := by
  induction rs generalizing tm v with
  | nil => simp [ffill, scan]
  | cons s ss ih =>
    simp only [ffill, scan]
    by_cases hs : s.time ≤ t
    · simp only [List.takeWhile_cons, hs, decide_true, if_true, List.getLast?_cons, Option.getD_some]
      exact ih s.time (s.val.or v)
    · simp [hs]

theorem pad_ffill_none (t : Int) (l : List (Row α)) : padLookup (ffill none l) t = scan t none l := by
  cases l with
  | nil => rfl
  | cons r rs =>
    simp only [padLookup, ffill, scan]
    by_cases h : r.time ≤ t
    · simp only [List.takeWhile_cons, h, decide_true, if_true, List.getLast?_cons, Option.bind_some]
      exact tw_ffill_last t r.time (r.val.or none) rs
    · simp [h]

/-- any row order -/
theorem scan_noneObserved (t : Int) (l : List (Row α)) (c : Option α) (h : NoneObserved l t) : scan t c l = c := by
  induction l generalizing c with
  | nil => rfl
  | cons a as ih =>
    obtain ⟨ha, has⟩ := List.forall_mem_cons.1 h
    simp only [scan]
    split
    · next hat => rw [ha hat, ih _ has]; rfl
    · rfl

theorem scan_latest (t : Int) (l : List (Row α)) (hs : l.Pairwise (fun a b => a.time < b.time))
    (c : Option α) (r : Row α) (h : IsLatest l t r) : scan t c l = r.val := by
  induction l generalizing c with
  | nil => exact absurd h.1 (by simp)
  | cons a as ih =>
    obtain ⟨hmem, hrt, hsome, hmax⟩ := h
    have hs' := List.pairwise_cons.mp hs
    -- the head is `r` or precedes `r`, so it is consumed
    have hat : a.time ≤ t := by
      rcases List.mem_cons.mp hmem with rfl | hin
      · exact hrt
      · have := hs'.1 r hin; omega
    simp only [scan, hat, if_true]
    rcases List.mem_cons.mp hmem with rfl | hin
    · -- `r` is the head: no later row at or before `t` is observed
      rw [scan_noneObserved t as _ (fun r' hr' hr't => by
        cases hv : r'.val with
        | none => rfl
        | some x =>
          have h1 := hmax r' (List.mem_cons_of_mem _ hr') hr't (by simp [hv])
          have h2 := hs'.1 r' hr'
          omega)]
      obtain ⟨x, hx⟩ := Option.isSome_iff_exists.mp hsome
      rw [hx]; rfl
    · exact ih hs'.2 _ ⟨hin, hrt, hsome, fun r' hr' => hmax r' (List.mem_cons_of_mem _ hr')⟩

theorem isLatest_congr {l l' : List (Row α)} (h : ∀ r, r ∈ l ↔ r ∈ l') (t : Int) (r : Row α) :
    IsLatest l t r ↔ IsLatest l' t r := by
  unfold IsLatest
  constructor
  · rintro ⟨a, b, c, d⟩; exact ⟨(h r).mp a, b, c, fun r' hr' => d r' ((h r').mpr hr')⟩
  · rintro ⟨a, b, c, d⟩; exact ⟨(h r).mpr a, b, c, fun r' hr' => d r' ((h r').mp hr')⟩

theorem latest_or_none (rows : List (Row α)) (t : Int) :
    (∃ r, IsLatest rows t r) ∨ NoneObserved rows t := by
  induction rows with
  | nil => exact Or.inr (fun r h => absurd h (by simp))
  | cons a as ih =>
    -- `a` counts iff it is observed at or before `t`; the latest is then `a` or the tail's latest, whichever is later
    by_cases ha : a.time ≤ t ∧ a.val.isSome
    · refine Or.inl ?_
      rcases ih with ⟨r, hr⟩ | hn
      · by_cases hcmp : r.time ≤ a.time
        · exact ⟨a, List.mem_cons_self .., ha.1, ha.2, List.forall_mem_cons.2 ⟨fun _ _ => Int.le_refl _,
            fun r' hin h1 h2 => by have := hr.2.2.2 r' hin h1 h2; omega⟩⟩
        · exact ⟨r, List.mem_cons_of_mem _ hr.1, hr.2.1, hr.2.2.1,
            List.forall_mem_cons.2 ⟨fun _ _ => by omega, hr.2.2.2⟩⟩
      · exact ⟨a, List.mem_cons_self .., ha.1, ha.2, List.forall_mem_cons.2 ⟨fun _ _ => Int.le_refl _,
          fun r' hin h1 h2 => by have := hn r' hin h1; simp [this] at h2⟩⟩
    · rcases ih with ⟨r, hr⟩ | hn
      · exact Or.inl ⟨r, List.mem_cons_of_mem _ hr.1, hr.2.1, hr.2.2.1,
          List.forall_mem_cons.2 ⟨fun h1 h2 => absurd ⟨h1, h2⟩ ha, hr.2.2.2⟩⟩
      · refine Or.inr (List.forall_mem_cons.2 ⟨fun h1 => ?_, hn⟩)
        cases hv : a.val with
        | none => rfl
        | some x => exact absurd ⟨h1, by simp [hv]⟩ ha

end

section
variable {α : Type} [Add α] [Sub α] [Mul α] [Div α] [Neg α] [NumOps α]

/-! ## The expanded rows of day-sorted bars are strictly increasing in time -/

theorem mem_expandBar {adjust : Bool} {b : Bar α} {r : Row α} (h : r ∈ expandBar adjust b) :
    r.time = b.day * 86400 + OPEN ∨ r.time = b.day * 86400 + CLOSE := by
  simp only [expandBar, List.mem_cons, List.not_mem_nil, or_false] at h
  rcases h with rfl | rfl
  · exact Or.inl rfl
  · exact Or.inr rfl

theorem expandBar_times (adjust : Bool) (b : Bar α) :
    ∃ o c, expandBar adjust b = [⟨b.day * 86400 + OPEN, o⟩, ⟨b.day * 86400 + CLOSE, c⟩] :=
  ⟨_, _, rfl⟩

theorem expandBar_false (b : Bar α) :
    expandBar false b = [⟨b.day * 86400 + OPEN, b.open_⟩, ⟨b.day * 86400 + CLOSE, b.close⟩] := rfl

theorem expandBar_true (b : Bar α) :
    expandBar true b =
      [⟨b.day * 86400 + OPEN, b.adj.bind fun a => b.close.bind fun c => b.open_.bind fun o => some ((a / c) * o)⟩,
       ⟨b.day * 86400 + CLOSE, b.adj⟩] := rfl

theorem expand_strict (adjust : Bool) (l : List (Bar α)) (h : l.Pairwise (fun a b => a.day < b.day)) :
    (l.flatMap (expandBar adjust)).Pairwise (fun a b => a.time < b.time) := by
  induction l with
  | nil => simp
  | cons a as ih =>
    have h' := List.pairwise_cons.mp h
    rw [List.flatMap_cons, List.pairwise_append]
    refine ⟨?_, ih h'.2, ?_⟩
    · simp only [expandBar, List.pairwise_cons, List.mem_cons, List.not_mem_nil, or_false,
        forall_eq, List.Pairwise.nil, and_true, IsEmpty.forall_iff, implies_true, OPEN, CLOSE]
      omega
    · intro x hx y hy
      obtain ⟨b, hb, hyb⟩ := List.mem_flatMap.mp hy
      have hd := h'.1 b hb
      have hx' := mem_expandBar hx
      have hy' := mem_expandBar hyb
      simp only [OPEN, CLOSE] at hx' hy'
      omega

theorem sortedBars_strict (bars : List (Bar α)) (hd : bars.Pairwise (fun a b => a.day ≠ b.day)) :
    (bars.mergeSort barLe).Pairwise (fun a b => a.day < b.day) := by
  have hp : (bars.mergeSort barLe).Pairwise (fun a b => a.day ≠ b.day) :=
    List.Perm.pairwise (R := fun a b => a.day ≠ b.day) (List.mergeSort_perm bars barLe).symm hd
      (fun h => Ne.symm h)
  have hs : (bars.mergeSort barLe).Pairwise (fun a b => barLe a b = true) :=
    List.pairwise_mergeSort
      (fun a b c hab hbc => by simp only [barLe, decide_eq_true_eq] at *; omega)
      (fun a b => by simp only [barLe, Bool.or_eq_true, decide_eq_true_eq]; omega) bars
  have := hp.and hs
  exact this.imp (fun {a b} ⟨h1, h2⟩ => by simp only [barLe, decide_eq_true_eq] at h2; omega)

/-- the frame before forward fill: `bidAskFrame adjust bars = ffill none (sortedRows adjust bars)` by definition -/
def sortedRows (adjust : Bool) (bars : List (Bar α)) : List (Row α) :=
  (bars.mergeSort barLe).flatMap (expandBar adjust)

theorem sortedRows_strict (adjust : Bool) (bars : List (Bar α))
    (hd : bars.Pairwise (fun a b => a.day ≠ b.day)) :
    (sortedRows adjust bars).Pairwise (fun a b => a.time < b.time) :=
  expand_strict adjust _ (sortedBars_strict bars hd)

theorem mem_sortedRows (adjust : Bool) (bars : List (Bar α)) (r : Row α) :
    r ∈ sortedRows adjust bars ↔ r ∈ bars.flatMap (expandBar adjust) := by
  simp only [sortedRows, List.mem_flatMap, List.mem_mergeSort]

/-! ## `barLookup` = the latest observed expanded row -/

theorem barLookup_eq_scan (adjust : Bool) (bars : List (Bar α)) (t : Int) :
    barLookup adjust bars t = scan t none (sortedRows adjust bars) :=
  pad_ffill_none t _

theorem barLookup_latest (adjust : Bool) (bars : List (Bar α)) (t : Int)
    (hd : bars.Pairwise (fun a b => a.day ≠ b.day)) (r : Row α)
    (h : IsLatest (bars.flatMap (expandBar adjust)) t r) : barLookup adjust bars t = r.val := by
  rw [barLookup_eq_scan]
  exact scan_latest t _ (sortedRows_strict adjust bars hd) none r
    ((isLatest_congr (mem_sortedRows adjust bars) t r).mpr h)

theorem barLookup_noneObserved (adjust : Bool) (bars : List (Bar α)) (t : Int)
    (h : NoneObserved (bars.flatMap (expandBar adjust)) t) : barLookup adjust bars t = none := by
  rw [barLookup_eq_scan]
  exact scan_noneObserved t _ none (fun r hr => h r ((mem_sortedRows adjust bars r).mp hr))

/-- no distinctness of dates needed -/
theorem barLookup_before (adjust : Bool) (bars : List (Bar α)) (t : Int)
    (h : ∀ b ∈ bars, t < b.day * 86400 + OPEN) : barLookup adjust bars t = none := by
  refine barLookup_noneObserved adjust bars t (fun r hr hrt => ?_)
  obtain ⟨b, hb, hrb⟩ := List.mem_flatMap.mp hr
  have h1 := h b hb
  have h2 := mem_expandBar hrb
  simp only [OPEN, CLOSE] at h1 h2
  omega

/-- the answer depends only on the *set* of expanded rows dated at or before `t` -/
theorem barLookup_rows_causal (adjust adjust' : Bool) (bars bars' : List (Bar α)) (t : Int)
    (hd : bars.Pairwise (fun a b => a.day ≠ b.day)) (hd' : bars'.Pairwise (fun a b => a.day ≠ b.day))
    (h : ∀ r, (r ∈ bars.flatMap (expandBar adjust) ∧ r.time ≤ t) ↔
              (r ∈ bars'.flatMap (expandBar adjust') ∧ r.time ≤ t)) :
    barLookup adjust bars t = barLookup adjust' bars' t := by
  rcases latest_or_none (bars.flatMap (expandBar adjust)) t with ⟨r, hr⟩ | hn
  · have hr' : IsLatest (bars'.flatMap (expandBar adjust')) t r :=
      ⟨((h r).mp ⟨hr.1, hr.2.1⟩).1, hr.2.1, hr.2.2.1,
        fun r' hm h1 h2 => hr.2.2.2 r' ((h r').mpr ⟨hm, h1⟩).1 h1 h2⟩
    rw [barLookup_latest adjust bars t hd r hr, barLookup_latest adjust' bars' t hd' r hr']
  · have hn' : NoneObserved (bars'.flatMap (expandBar adjust')) t :=
      fun r hm h1 => hn r ((h r).mpr ⟨hm, h1⟩).1 h1
    rw [barLookup_noneObserved adjust bars t hn, barLookup_noneObserved adjust' bars' t hn']

/-- per-bar causality: only bars whose open is at or before `t` matter -/
theorem barLookup_bars_causal (adjust : Bool) (bars bars' : List (Bar α)) (t : Int)
    (hd : bars.Pairwise (fun a b => a.day ≠ b.day)) (hd' : bars'.Pairwise (fun a b => a.day ≠ b.day))
    (h : ∀ b, (b ∈ bars ∧ b.day * 86400 + OPEN ≤ t) ↔ (b ∈ bars' ∧ b.day * 86400 + OPEN ≤ t)) :
    barLookup adjust bars t = barLookup adjust bars' t := by
  apply barLookup_rows_causal adjust adjust bars bars' t hd hd'
  have key : ∀ (l l' : List (Bar α)),
      (∀ b, (b ∈ l ∧ b.day * 86400 + OPEN ≤ t) → (b ∈ l' ∧ b.day * 86400 + OPEN ≤ t)) →
      ∀ r, (r ∈ l.flatMap (expandBar adjust) ∧ r.time ≤ t) →
           (r ∈ l'.flatMap (expandBar adjust) ∧ r.time ≤ t) := by
    intro l l' hl r ⟨hr, hrt⟩
    obtain ⟨b, hb, hrb⟩ := List.mem_flatMap.mp hr
    have h2 := mem_expandBar hrb
    have hbt : b.day * 86400 + OPEN ≤ t := by
      simp only [OPEN, CLOSE] at h2 ⊢
      omega
    exact ⟨List.mem_flatMap.mpr ⟨b, (hl b ⟨hb, hbt⟩).1, hrb⟩, hrt⟩
  intro r
  exact ⟨key bars bars' (fun b => (h b).mp) r, key bars' bars (fun b => (h b).mpr) r⟩

/-- what `get_asset_latest_bid_price` sees of one source: a source that raises (`KeyError`, asset not listed) is skipped
like one that answers NaN -/
def srcVal (t : Int) (a : String) (ds : DataSource α) : Option α :=
  match ds.getBid t a with | .ok v => v | .error _ => none

theorem handlerBid_eq (sources : List (DataSource α)) (t : Int) (a : String) :
    handlerBid sources t a = sources.findSome? (srcVal t a) := rfl

theorem getBid_of_lookup {ds : DataSource α} {a : String} {bars : List (Bar α)} (t : Int)
    (h : ds.assets.lookup a = some bars) : ds.getBid t a = .ok (barLookup ds.adjust bars t) := by
  unfold DataSource.getBid; rw [h]

theorem getBid_of_lookup_none {ds : DataSource α} {a : String} (t : Int)
    (h : ds.assets.lookup a = none) : ds.getBid t a = .error .key := by
  unfold DataSource.getBid; rw [h]

theorem getBid_eq_ok_iff (ds : DataSource α) (t : Int) (a : String) (v : Option α) :
    ds.getBid t a = .ok v ↔ ∃ bars, ds.assets.lookup a = some bars ∧ barLookup ds.adjust bars t = v := by
  cases h : ds.assets.lookup a with
  | none => simp [getBid_of_lookup_none t h]
  | some bars => simp [getBid_of_lookup t h]

theorem getBid_eq_error_iff (ds : DataSource α) (t : Int) (a : String) :
    ds.getBid t a = .error .key ↔ ds.assets.lookup a = none := by
  cases h : ds.assets.lookup a with
  | none => simp [getBid_of_lookup_none t h]
  | some bars => simp [getBid_of_lookup t h]

theorem srcVal_eq_some (ds : DataSource α) (t : Int) (a : String) (v : α) :
    srcVal t a ds = some v ↔ ds.getBid t a = .ok (some v) := by
  unfold srcVal
  cases h : ds.getBid t a with
  | ok w => simp
  | error e => simp

theorem srcVal_eq_none (ds : DataSource α) (t : Int) (a : String) :
    srcVal t a ds = none ↔ (ds.getBid t a = .error .key ∨ ds.getBid t a = .ok none) := by
  unfold srcVal
  cases h : ds.assets.lookup a with
  | none => simp [getBid_of_lookup_none t h]
  | some bars => simp [getBid_of_lookup t h]

theorem handlerBid_cons (ds : DataSource α) (rest : List (DataSource α)) (t : Int) (a : String) :
    handlerBid (ds :: rest) t a = (srcVal t a ds).or (handlerBid rest t a) := by
  rw [handlerBid_eq, List.findSome?_cons, handlerBid_eq]
  cases srcVal t a ds <;> rfl

end

end Qs

namespace Qs.Sess

section
variable {α : Type} [Add α] [Sub α] [Mul α] [Div α] [Neg α] [NumOps α]

/-! ## The data source: bars dated after day `dayT` are never read up to its last second, `dayT * 86400 + 86399` -/

theorem barLookup_upTo (adjust : Bool) (bars bars' : List (Bar α)) (dayT t : Int)
    (hd : bars.Pairwise (fun a b => a.day ≠ b.day)) (hd' : bars'.Pairwise (fun a b => a.day ≠ b.day))
    (h : ∀ b, (b ∈ bars ∧ b.day ≤ dayT) ↔ (b ∈ bars' ∧ b.day ≤ dayT))
    (ht : t ≤ dayT * 86400 + 86399) :
    barLookup adjust bars t = barLookup adjust bars' t := by
  apply barLookup_bars_causal adjust bars bars' t hd hd'
  intro b
  have key : b.day * 86400 + OPEN ≤ t → b.day ≤ dayT := by
    intro hb; unfold OPEN at hb; omega
  constructor
  · rintro ⟨hb, hbt⟩; exact ⟨((h b).1 ⟨hb, key hbt⟩).1, hbt⟩
  · rintro ⟨hb, hbt⟩; exact ⟨((h b).2 ⟨hb, key hbt⟩).1, hbt⟩

/-- the bars a source holds for an asset (`[]` for an asset it does not know: the handler swallows the
`KeyError` and moves on, exactly as for a file with no bar yet) -/
def barsOf (ds : DataSource α) (a : String) : List (Bar α) := (ds.assets.lookup a).getD []

/-- no two bars of one file carry the same date (the model's stated scope) -/
def DistinctDays (ds : DataSource α) : Prop := ∀ a, (barsOf ds a).Pairwise (fun x y => x.day ≠ y.day)

/-- two sources hold the same bars dated on or before day `dayT` for every asset (and use the same adjustment) -/
def AgreeUpTo (dayT : Int) (ds ds' : DataSource α) : Prop :=
  ds.adjust = ds'.adjust ∧ ∀ a b, (b ∈ barsOf ds a ∧ b.day ≤ dayT) ↔ (b ∈ barsOf ds' a ∧ b.day ≤ dayT)

theorem srcVal_barsOf (ds : DataSource α) (t : Int) (a : String) :
    srcVal t a ds = barLookup ds.adjust (barsOf ds a) t := by
  unfold srcVal DataSource.getBid barsOf
  cases ds.assets.lookup a with
  | none => exact (barLookup_before ds.adjust [] t (by simp)).symm
  | some bars => rfl

theorem srcVal_upTo {dayT t : Int} {ds ds' : DataSource α} (hd : DistinctDays ds) (hd' : DistinctDays ds')
    (h : AgreeUpTo dayT ds ds') (ht : t ≤ dayT * 86400 + 86399) (a : String) :
    srcVal t a ds = srcVal t a ds' := by
  rw [srcVal_barsOf, srcVal_barsOf, ← h.1]
  exact barLookup_upTo ds.adjust _ _ dayT t (hd a) (hd' a) (h.2 a) ht

end

end Qs.Sess
