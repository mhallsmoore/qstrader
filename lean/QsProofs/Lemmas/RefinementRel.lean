import QsProofs.Lemmas.RefinementSession
import QsProofs.Lemmas.SessionStep

/-!
# C08: operations that may raise against partial reference operations; the broker level

`Sim R x y`: the outcome `x : σ × Option ε` of an operation that may raise simulates the outcome `y : Option ρ` of a
partial reference operation — both fail, or both succeed in `R`-related states. Each operation of the model gets ONE
lemma `Sim … (op b) (refOp st)` with no hypothesis on what it returned; "returned normally ⇒ reference defined" and
"reference defined ⇒ returns normally" are its projections `Sim.fwd`, `Sim.conv`. What speaks of the reference alone
(what an operation leaves alone, which quotes a defined result needed) is proved on the reference.
-/

namespace Qs.Ref
open NumOps Num

section Sim
variable {σ ρ ε : Type}

def Sim (R : σ → ρ → Prop) (x : σ × Option ε) : Option ρ → Prop
  | some r => x.2 = none ∧ R x.1 r
  | none => x.2 ≠ none

theorem Sim.fwd {R : σ → ρ → Prop} {x : σ × Option ε} {y : Option ρ} (h : Sim R x y) (hx : x.2 = none) :
    ∃ r, y = some r ∧ R x.1 r := by
  cases y with
  | none => exact absurd hx h
  | some r => exact ⟨r, rfl, h.2⟩

theorem Sim.conv {R : σ → ρ → Prop} {x : σ × Option ε} {y : Option ρ} {r : ρ} (h : Sim R x y) (hy : y = some r) :
    x.2 = none ∧ R x.1 r := by
  subst hy; exact h

theorem Sim.ok_iff {R : σ → ρ → Prop} {x : σ × Option ε} {y : Option ρ} (h : Sim R x y) :
    x.2 = none ↔ y.isSome := by
  cases y with
  | none => exact ⟨fun hx => absurd hx h, fun h' => nomatch h'⟩
  | some r => exact ⟨fun _ => rfl, fun _ => h.1⟩

theorem Sim.mono {R R' : σ → ρ → Prop} {x : σ × Option ε} {y : Option ρ} (h : Sim R x y)
    (hR : ∀ r, y = some r → R x.1 r → R' x.1 r) : Sim R' x y := by
  cases y with
  | none => exact h
  | some r => exact ⟨h.1, hR r rfl h.2⟩

/-- `z = match x with | (s, some e) => (_, some _) | (s, none) => k s` (the loops of the model) against `Option.bind`;
`herr`, `hok` say that `z` is that match and are closed by rewriting with the equation they assume -/
theorem Sim.bind {σ' ρ' ε' : Type} {R : σ → ρ → Prop} {R' : σ' → ρ' → Prop} {x : σ × Option ε} {y : Option ρ}
    (h : Sim R x y) {z : σ' × Option ε'} {k : σ → σ' × Option ε'} {g : ρ → Option ρ'}
    (herr : ∀ s e, x = (s, some e) → z.2 ≠ none) (hok : ∀ s, x = (s, none) → z = k s)
    (hk : ∀ r, y = some r → R x.1 r → Sim R' (k x.1) (g r)) : Sim R' z (y.bind g) := by
  obtain ⟨s, _ | e⟩ := x
  · rw [hok s rfl]
    cases y with
    | none => exact absurd rfl h
    | some r => exact hk r rfl h.2
  · cases y with
    | none => exact herr s e rfl
    | some r => exact absurd h.1 (fun h => nomatch h)

theorem Sim.andThen {ρ' : Type} {R : σ → ρ → Prop} {R' : σ → ρ' → Prop} {x : σ × Option ε} {y : Option ρ}
    (h : Sim R x y) {g : σ → σ × Option ε} {k : ρ → Option ρ'}
    (hk : ∀ r, y = some r → R x.1 r → Sim R' (g x.1) (k r)) : Sim R' (Sess.andThen x g) (y.bind k) :=
  h.bind (k := g) (fun _ _ hx => by rw [hx]; exact Option.some_ne_none _) (fun _ hx => by rw [hx]; rfl) hk

theorem Sim.andThen_skip {R : σ → ρ → Prop} {x : σ × Option ε} {y : Option ρ} (h : Sim R x y)
    {g : σ → σ × Option ε} (hg : ∀ r, R x.1 r → g x.1 = (x.1, none)) : Sim R (Sess.andThen x g) y := by
  obtain ⟨s, _ | e⟩ := x
  · cases y with
    | none => exact absurd rfl h
    | some r => exact ⟨congrArg Prod.snd (hg r h.2), by rw [show Sess.andThen (s, none) g = g s from rfl, hg r h.2]; exact h.2⟩
  · exact h

end Sim

section Reference
variable {α : Type} [Add α] [Sub α] [Mul α] [Div α] [NumOps α]

theorem refFill_isSome (fee : FeeModel α) (px : Px α) (t : Int) (st : RefState α) (o : String × Int) :
    (refFill fee px t st o).isSome = (px t o.1).isSome := by
  unfold refFill; cases px t o.1 <;> rfl

theorem refFill_frame {fee : FeeModel α} {px : Px α} {t : Int} {st st' : RefState α} {o : String × Int}
    (h : refFill fee px t st o = some st') :
    st'.pending = st.pending ∧ st'.equity = st.equity ∧ st'.allocDates = st.allocDates ∧
      st'.hold = holdAdd st.hold o.1 o.2 := by
  unfold refFill at h
  cases hpx : px t o.1 with
  | none => rw [hpx] at h; cases h
  | some p => rw [hpx] at h; cases h; exact ⟨rfl, rfl, rfl, rfl⟩

theorem refFillAll_frame {fee : FeeModel α} {px : Px α} {t : Int} :
    ∀ {os : List (String × Int)} {st st' : RefState α}, refFillAll fee px t st os = some st' →
      st'.pending = st.pending ∧ st'.equity = st.equity ∧ st'.allocDates = st.allocDates ∧
      (∀ k ∈ st'.hold.map (·.1), k ∈ st.hold.map (·.1) ∨ k ∈ os.map (·.1))
  | [], st, st', h => by cases h; exact ⟨rfl, rfl, rfl, fun _ hk => Or.inl hk⟩
  | o :: os, st, st', h => by
    rw [refFillAll] at h
    obtain ⟨s1, h1, h2⟩ := Option.bind_eq_some_iff.mp h
    obtain ⟨a1, a2, a3, a4⟩ := refFill_frame h1
    obtain ⟨b1, b2, b3, b4⟩ := refFillAll_frame h2
    refine ⟨b1.trans a1, b2.trans a2, b3.trans a3, fun k hk => ?_⟩
    rcases b4 k hk with hk | hk
    · rw [a4] at hk
      rcases holdAdd_keys_subset st.hold o.1 o.2 k hk with hk | rfl
      · exact Or.inl hk
      · exact Or.inr (by simp)
    · exact Or.inr (by simp [hk])

theorem refFillAll_quoted {fee : FeeModel α} {px : Px α} {t : Int} :
    ∀ {os : List (String × Int)} {st st' : RefState α}, refFillAll fee px t st os = some st' →
      ∀ o ∈ os, (px t o.1).isSome
  | [], _, _, _ => fun _ ho => nomatch ho
  | o :: os, st, st', h => by
    rw [refFillAll] at h
    obtain ⟨s1, h1, h2⟩ := Option.bind_eq_some_iff.mp h
    intro x hx
    rcases List.mem_cons.mp hx with rfl | hx
    · rw [← refFill_isSome fee px t st, h1]; rfl
    · exact refFillAll_quoted h2 x hx

theorem refFillAll_qty (fee : FeeModel α) (px : Px α) (t : Int) :
    ∀ (os : List (String × Int)) (st st' : RefState α), refFillAll fee px t st os = some st' →
      ∀ b, (st'.hold.lookup b).getD 0 = applyOrders st.hold os b := by
  intro os
  induction os with
  | nil => intro st st' h b; cases h; simp [applyOrders, orderedQty]
  | cons o os ih =>
    intro st st' h b
    rw [refFillAll] at h
    obtain ⟨s1, hf, h⟩ := Option.bind_eq_some_iff.mp h
    rw [ih s1 st' h b, (refFill_frame hf).2.2.2]
    unfold applyOrders
    rw [holdAdd_qty, orderedQty_cons]
    omega

theorem refFillAll_isSome {fee : FeeModel α} {px : Px α} {t : Int} :
    ∀ {os : List (String × Int)} {st : RefState α}, (∀ o ∈ os, (px t o.1).isSome) →
      (refFillAll fee px t st os).isSome
  | [], _, _ => rfl
  | o :: os, st, h => by
    rw [refFillAll]
    have := refFill_isSome fee px t st o
    rw [h o List.mem_cons_self] at this
    obtain ⟨s1, h1⟩ := Option.isSome_iff_exists.mp this
    rw [h1, Option.bind_some]
    exact refFillAll_isSome fun x hx => h x (List.mem_cons_of_mem _ hx)

/-- one `broker.update(dt)` on the reference state: outside exchange hours nothing, inside them the pending orders fill
at the prices of `t`, sells first -/
def refUpdate (fee : FeeModel α) (px : Px α) (t : Int) (st : RefState α) : Option (RefState α) :=
  if isOpen t then
    refFillAll fee px t { st with pending := [] } (sellsFirst (fun (o : String × Int) => decide (o.2 < 0)) st.pending)
  else some st

theorem refUpdate_open (fee : FeeModel α) (px : Px α) {t : Int} (st : RefState α) (ho : isOpen t = true) :
    refUpdate fee px t st = refFillAll fee px t { st with pending := [] }
      (sellsFirst (fun (o : String × Int) => decide (o.2 < 0)) st.pending) := if_pos ho

theorem refUpdate_closed (fee : FeeModel α) (px : Px α) {t : Int} (st : RefState α) (hc : isOpen t = false) :
    refUpdate fee px t st = some st := if_neg (by rw [hc]; exact Bool.false_ne_true)

theorem refUpdate_frame {fee : FeeModel α} {px : Px α} {t : Int} {st st1 : RefState α}
    (h : refUpdate fee px t st = some st1) :
    st1.equity = st.equity ∧ st1.allocDates = st.allocDates ∧ (isOpen t = true → st1.pending = []) ∧
      (∀ k ∈ st1.hold.map (·.1), k ∈ st.hold.map (·.1) ∨ k ∈ st.pending.map (·.1)) ∧
      (∀ k ∈ st1.pending.map (·.1), k ∈ st.pending.map (·.1)) := by
  cases ho : isOpen t with
  | true =>
    rw [refUpdate_open _ _ _ ho] at h
    obtain ⟨h1, h2, h3, h4⟩ := refFillAll_frame h
    refine ⟨h2, h3, fun _ => h1, fun k hk => (h4 k hk).imp id fun hk => ?_, by rw [h1]; exact fun k hk => nomatch hk⟩
    obtain ⟨y, hy, rfl⟩ := List.mem_map.mp hk
    exact List.mem_map.mpr ⟨y, (mem_sellsFirst _ _ _).mp hy, rfl⟩
  | false =>
    cases (refUpdate_closed fee px st ho).symm.trans h
    exact ⟨rfl, rfl, (fun h => nomatch h), fun k hk => Or.inl hk, fun k hk => hk⟩

theorem refUpdate_quoted {fee : FeeModel α} {px : Px α} {t : Int} {st st1 : RefState α}
    (h : refUpdate fee px t st = some st1) (ho : isOpen t = true) : ∀ o ∈ st.pending, (px t o.1).isSome := by
  rw [refUpdate_open _ _ _ ho] at h
  exact fun o ho => refFillAll_quoted h o ((mem_sellsFirst _ _ _).mpr ho)

theorem refUpdate_assets (px : Px α) (A : String → Prop) {fee : FeeModel α} {t : Int} {st st1 : RefState α}
    (h : refUpdate fee px t st = some st1)
    (has : Assets A st) : Assets A st1 :=
  have ⟨_, _, _, hhold, hpend⟩ := refUpdate_frame h
  ⟨fun k hk => (hhold k hk).elim (has.1 k) (has.2 k), fun k hk => has.2 k (hpend k hk)⟩

end Reference

section
variable {α : Type} [Field α] [LinearOrder α] [IsStrictOrderedRing α] [FloorRing α] [NumOps α] [LawfulNumOps α]

/-- "marked where quoted": every stored position whose asset has a price at `t` carries that price (`Marked` asks the
price to exist as well; only `MarkedQ` is kept by every `update`) -/
def MarkedQ (px : Px α) (t : Int) (b : Broker α) : Prop :=
  ∀ e ∈ b.entries, ∀ p ∈ e.pf.positions, ∀ v, px t p.asset = some v → p.price = v

def BRM (fee : FeeModel α) (px : Px α) (t : Int) (b : Broker α) (st : RefState α) : Prop :=
  BR fee b st t ∧ MarkedQ px t b

omit [Field α] [LinearOrder α] [IsStrictOrderedRing α] [FloorRing α] [NumOps α] [LawfulNumOps α] in
theorem markedQ_single {px : Px α} {t : Int} {b : Broker α} {e : PfEntry α} (he : b.entries = [e]) :
    MarkedQ px t b ↔ ∀ p ∈ e.pf.positions, ∀ v, px t p.asset = some v → p.price = v := by
  simp only [MarkedQ, he, List.mem_singleton, forall_eq]

omit [Field α] [LinearOrder α] [IsStrictOrderedRing α] [FloorRing α] [NumOps α] [LawfulNumOps α] in
theorem Marked.markedQ {px : Px α} {t : Int} {b : Broker α} (h : Marked px t b) : MarkedQ px t b := by
  intro e he pos hp v hv
  have := h e he pos hp
  rw [hv] at this
  exact (Option.some.inj this).symm

theorem BRM.marked {fee : FeeModel α} {px : Px α} {b : Broker α} {st : RefState α} {t : Int}
    (h : BRM fee px t b st) (hq : ∀ x ∈ st.hold, (px t x.1).isSome) : Marked px t b := by
  obtain ⟨⟨⟨e, he, her⟩, -⟩, hm⟩ := h
  refine (marked_single he).2 fun pos hp => ?_
  have hk : pos.asset ∈ st.hold.map (·.1) := by
    rw [← keys_of_view her.hold]; exact List.mem_map.mpr ⟨pos, hp, rfl⟩
  obtain ⟨x, hx, hxa⟩ := List.mem_map.mp hk
  obtain ⟨v, hv⟩ := Option.isSome_iff_exists.mp (hxa ▸ hq x hx)
  rw [hv, (markedQ_single he).1 hm pos hp v hv]

theorem quoted_of_marked (fee : FeeModel α) (px : Px α) (b : Broker α) (st : RefState α) (t : Int)
    (hbr : BR fee b st t) (hm : Marked px t b) : ∀ x ∈ st.hold, (px t x.1).isSome := by
  obtain ⟨⟨e, he, her⟩, _, _, _⟩ := hbr
  intro x hx
  have hk : x.1 ∈ Positions.keys e.pf.positions := by
    rw [keys_of_view her.hold]; exact List.mem_map_of_mem hx
  obtain ⟨p, hp, hpa⟩ := List.mem_map.mp hk
  rw [← hpa, (marked_single he).1 hm p hp]; rfl

omit [Field α] [LinearOrder α] [IsStrictOrderedRing α] [FloorRing α] [NumOps α] [LawfulNumOps α] in
theorem quoted_of_keys {px : Px α} {t : Int} {hold hold' os : List (String × Int)}
    (hk : ∀ k ∈ hold'.map (·.1), k ∈ hold.map (·.1) ∨ k ∈ os.map (·.1))
    (hq : ∀ x ∈ hold, (px t x.1).isSome) (ho : ∀ o ∈ os, (px t o.1).isSome) :
    ∀ x ∈ hold', (px t x.1).isSome := by
  intro x hx
  rcases hk x.1 (List.mem_map_of_mem hx) with h | h <;> obtain ⟨y, hy, hxy⟩ := List.mem_map.mp h <;> rw [← hxy]
  exacts [hq y hy, ho y hy]

/-- a fill on the represented portfolio returns normally and moves cash and holdings as `refFill` does; the last
conjunct (a position afterwards is an old one or the traded one at the fill price) is what keeps `MarkedQ` -/
theorem ER.transact {e : PfEntry α} {st : RefState α} {t : Int} (her : ER e st t) (tx : Txn α) (ht : tx.time = t)
    (hq : tx.qty ≠ 0) (hp : 0 < tx.price) :
    ∃ pf', e.pf.transactAsset tx = (pf', none) ∧
      (∀ st' : RefState α, st'.cash = st.cash - (tx.price * ofInt tx.qty + tx.commission) →
        st'.hold = holdAdd st.hold tx.asset tx.qty → st'.pending = st.pending → ER { e with pf := pf' } st' t) ∧
      ∀ pos ∈ pf'.positions, pos ∈ e.pf.positions ∨ (pos.asset = tx.asset ∧ pos.price = tx.price) := by
  subst ht
  have hclk := her.wf.pos_clock_le
  have hview := transactPosition_view e.pf.positions st.hold tx her.hold hclk hq hp
  have hwf' := her.wf.fill tx hp (le_refl _)
  have hmem : ∀ pos ∈ (e.pf.positions.transactPosition tx).1,
      pos ∈ e.pf.positions ∨ (pos.asset = tx.asset ∧ pos.price = tx.price) := fun pos hpos => by
    rcases Positions.mem_transactPosition hpos with h | ⟨q, hf, rfl⟩ | rfl
    · exact Or.inl h
    · have hq' := Positions.find?_some hf
      exact Or.inr ⟨(Position.transact_asset q tx).trans hq'.2, by rw [Position.transact_dom q tx hq hp (hclk q hq'.1)]⟩
    · exact Or.inr ⟨Position.openFrom_asset tx, Position.openFrom_price tx⟩
  have hdom := transactAsset_dom e.pf tx her.wf.clock_le hclk hp
  rw [hdom] at hwf'
  refine ⟨_, hdom, fun st' hc hh hpd => ?_, hmem⟩
  exact ⟨her.id, by rw [hc, ← her.cash], hwf', by rw [hh]; exact hview,
    by rw [hh]; exact holdAdd_ne_zero her.nz _ hq, by rw [hpd]; exact her.queue, by rw [hpd]; exact her.pnz⟩

theorem executeOrder_rel (fee : FeeModel α) (px : Px α) (hpos : ∀ t a p, px t a = some p → 0 < p) (t : Int)
    (b : Broker α) (st : RefState α) (o : Order) (h : BRM fee px t b st) (hq : o.qty ≠ 0) :
    Sim (BRM fee px t) (b.executeOrder (quotesAt px t) PORTFOLIO_ID o) (refFill fee px t st (o.asset, o.qty)) := by
  obtain ⟨⟨⟨e, he, her⟩, hclock, hfee, hlog⟩, hm⟩ := h
  unfold refFill
  cases hpx : px t o.asset with
  | none =>
    -- no price: `makeTxn` refuses the order, and `refFill` is undefined
    have hmk : b.makeTxn (quotesAt px t) o = .error .value := by rw [makeTxn_eq, quotesAt_none hpx]
    simp only [Sim, Broker.executeOrder, hmk]
    exact Option.some_ne_none _
  | some p =>
    -- a price `p`: `makeTxn` builds the fill `tx` at bid = ask = `p`, the portfolio accepts it (`ER.transact`)
    let tx : Txn α := { asset := o.asset, qty := o.qty, time := t, price := p,
                        commission := fee.totalCost (ofInt (roundHalfEvenI (p * ofInt o.qty))), orderId := o.id }
    have hmk : b.makeTxn (quotesAt px t) o = .ok tx := by
      rw [makeTxn_eq, quotesAt_some hpx, hclock, hfee]
      simp only [fillOf, ite_self, tx]
    obtain ⟨pf', hta, her', hmem⟩ := her.transact tx rfl hq (hpos t o.asset p hpx)
    have hent := setPf_single he pf' (by have := transactAsset_id e.pf tx; rwa [hta] at this)
    rw [Broker.executeOrder, hmk]
    simp only [Broker.applyTxn, find?_single he her.id, hta]
    refine ⟨rfl, ⟨⟨_, hent, her' _ rfl rfl rfl⟩, hclock, hfee, ?_⟩, (markedQ_single hent).2 fun pos hp' v hv => ?_⟩
    · simp only [fillsOf, List.map_append, List.map_cons, List.map_nil] at hlog ⊢
      rw [hlog]
    · rcases hmem pos hp' with h | ⟨h1, h2⟩
      · exact (markedQ_single he).1 hm pos h v hv
      · rw [h1, hpx] at hv
        rw [h2]; exact Option.some.inj hv

/-- the order phase of `update` (`runUntilErr … executeOrder`) -/
theorem orderPhase_rel (fee : FeeModel α) (px : Px α) (hpos : ∀ t a p, px t a = some p → 0 < p) (t : Int) :
    ∀ (batch : List (String × Order)) (b : Broker α) (st : RefState α),
    BRM fee px t b st → (∀ x ∈ batch, x.1 = PORTFOLIO_ID ∧ x.2.qty ≠ 0) →
    Sim (BRM fee px t)
      (Broker.runUntilErr (fun b (x : String × Order) => b.executeOrder (quotesAt px t) x.1 x.2) b batch)
      (refFillAll fee px t st (batch.map fun x => (x.2.asset, x.2.qty)))
  | [], b, st, h, _ => ⟨rfl, h⟩
  | x :: xs, b, st, h, hb => by
    obtain ⟨hx1, hx2⟩ := hb x List.mem_cons_self
    have h1 := executeOrder_rel fee px hpos t b st x.2 h hx2
    rw [← hx1] at h1
    rw [List.map_cons, refFillAll, Broker.runUntilErr]
    refine h1.bind (k := fun b1 => Broker.runUntilErr _ b1 xs)
      (fun _ _ hx => by rw [hx]; exact Option.some_ne_none _) (fun _ hx => by rw [hx]) fun r _ hr => ?_
    exact orderPhase_rel fee px hpos t xs _ r hr fun y hy => hb y (List.mem_cons_of_mem _ hy)

/-- the mark phase of `update` -/
theorem markPhase_brm (fee : FeeModel α) (px : Px α) (b : Broker α) (st : RefState α) (t0 t : Int)
    (hbr : BR fee b st t0) (ht : t0 ≤ t) :
    BRM fee px t { b with clock := t, entries := b.entries.map (C02.markEntry (quotesAt px t) t) } st := by
  obtain ⟨⟨e, he, her⟩, -, hfee, hlog⟩ := hbr
  -- a mark changes neither asset nor quantity
  have hview : posView (e.pf.positions.map (C02.markPos (quotesAt px t) t)) = castHold st.hold := by
    rw [← her.hold, posView, posView, List.map_map]
    exact List.map_congr_left fun x _ => by simp only [Function.comp_def, C02.markPos_asset, C02.markPos_net]
  have hent : b.entries.map (C02.markEntry (quotesAt px t) t) = [C02.markEntry (quotesAt px t) t e] := by
    rw [he]; rfl
  refine ⟨⟨⟨_, hent, ?_⟩, rfl, hfee, hlog⟩, (markedQ_single hent).2 fun pos hp v hv => ?_⟩
  · have hw := her.wf.mono ht
    refine ⟨her.id, her.cash, ⟨hw.clock_le, fun pos hp => ?_, ?_⟩, hview, her.nz, her.queue, her.pnz⟩
    · obtain ⟨p0, hp0, rfl⟩ := List.mem_map.mp hp
      exact C02.markPos_clock_le _ _ _ (hw.pos_clock_le p0 hp0)
    · exact (Positions.keys_map (C02.markPos_asset _ t) e.pf.positions).symm ▸ hw.nodup
  · obtain ⟨p0, -, rfl⟩ := List.mem_map.mp hp
    rw [C02.markPos_asset] at hv
    unfold C02.markPos
    rw [quotesAt_some hv]
    exact add_self_div_two v

theorem BRM.clearQueues {fee : FeeModel α} {px : Px α} {b : Broker α} {st : RefState α} {t : Int}
    (h : BRM fee px t b st) : BRM fee px t b.clearQueues { st with pending := [] } := by
  refine ⟨clearQueues_sim fee b st t h.1, fun e he pos hp => ?_⟩
  simp only [Broker.clearQueues, List.mem_map] at he
  obtain ⟨e0, he0, rfl⟩ := he
  exact h.2 e0 he0 pos hp

omit [NumOps α] [LawfulNumOps α] in
theorem quotesAt_mid_pos {px : Px α} (hpos : ∀ t a p, px t a = some p → 0 < p) {t : Int} {a : String} {bid ask : α}
    (h : quotesAt px t a = some (bid, ask)) : 0 < (bid + ask) / 2 := by
  obtain ⟨p, hpx, hp⟩ := Option.map_eq_some_iff.mp h
  cases hp
  rw [add_self_div_two]
  exact hpos t _ _ hpx

/-- with no hypothesis on quotes: `update` raises exactly when the reference is undefined (an unquoted pending order in
exchange hours) -/
theorem update_rel (fee : FeeModel α) (px : Px α) (hpos : ∀ t a p, px t a = some p → 0 < p)
    (b : Broker α) (st : RefState α) (t0 t : Int) (hbr : BR fee b st t0) (ht : t0 ≤ t) :
    Sim (BRM fee px t) (b.update t (quotesAt px t)) (refUpdate fee px t st) := by
  rw [C02.update_dom b t (quotesAt px t) (hbr.bwf ht) fun _ _ _ _ _ _ => quotesAt_mid_pos hpos]
  have h1 := markPhase_brm fee px b st t0 t hbr ht
  cases ho : isOpen t with
  | false => rw [refUpdate_closed _ _ _ ho]; exact ⟨rfl, h1⟩
  | true =>
    obtain ⟨hbatch, hall⟩ := drained_sim fee _ st t h1.1
    rw [refUpdate_open _ _ _ ho, if_pos rfl, ← hbatch]
    exact orderPhase_rel fee px hpos t _ _ _ h1.clearQueues hall

theorem update_rep_closed (fee : FeeModel α) (px : Px α) (hpos : ∀ t a p, px t a = some p → 0 < p)
    (b b2 : Broker α) (st : RefState α) (t t' : Int) (hbr : BR fee b st t) (ht : t ≤ t')
    (hc : isOpen t' = false) (hret : b.update t' (quotesAt px t') = (b2, none)) : BRM fee px t' b2 st := by
  obtain ⟨st1, h1, hbrm⟩ := (update_rel fee px hpos b st t t' hbr ht).fwd (by rw [hret])
  rw [refUpdate_closed _ _ _ hc] at h1
  cases h1
  rwa [hret] at hbrm

end
end Qs.Ref
