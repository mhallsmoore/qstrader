import QsProofs.Inst
import QsProofs.Lemmas.PositionsBasic
import Mathlib.Algebra.BigOperators.Group.List.Basic

/-!
# One `Position`: runs of fills and re-marks, the reachability invariant, total P&L

A run is `Position.reached f fs ms`: open with `f`, `transact` the fills `fs`, `updatePrice` the re-marks `ms`;
`Position.accepted` are the fills that were not refused.  `Inv P fs` ties the six accumulators of `P` to the sums
(`consid`, `commis`, `qtySum`) over the buys and the sells of `fs`; it holds along every run (`inv_openFrom`,
`inv_transact`, `inv_applyFills`) and it alone gives the identities of C03 (`totalPnl_eq`, `Inv.reconcile`, `Inv.net`,
`Inv.avgPrice_long/_short`).  In the domain `ValidRun` the two methods are equations (`Position.updatePrice_dom`,
`Position.transact_dom`) and no call of a run is refused (`applyFills_timed`, `applyMarks_noerr`, both by `foldl_timed`).
-/

set_option linter.unusedSectionVars false

namespace Qs
open NumOps Num

section Defs
variable {α : Type} [Add α] [Sub α] [Mul α] [Div α] [Neg α] [NumOps α]

namespace Position

def applyFills (P : Position α) (fs : List (Txn α)) : Position α :=
  fs.foldl (fun p t => (p.transact t).1) P

def applyMarks (P : Position α) (ms : List (α × Int)) : Position α :=
  ms.foldl (fun p m => (p.updatePrice m.1 m.2).1) P

def reached (f : Txn α) (fs : List (Txn α)) (ms : List (α × Int)) : Position α :=
  applyMarks (applyFills (openFrom f) fs) ms

@[simp] theorem applyFills_nil (P : Position α) : applyFills P [] = P := rfl
@[simp] theorem applyFills_cons (P : Position α) (t : Txn α) (ts : List (Txn α)) :
    applyFills P (t :: ts) = applyFills (P.transact t).1 ts := rfl
@[simp] theorem applyMarks_nil (P : Position α) : applyMarks P [] = P := rfl
@[simp] theorem applyMarks_cons (P : Position α) (m : α × Int) (ms : List (α × Int)) :
    applyMarks P (m :: ms) = applyMarks (P.updatePrice m.1 m.2).1 ms := rfl

theorem applyFills_append (P : Position α) (l₁ l₂ : List (Txn α)) :
    applyFills P (l₁ ++ l₂) = applyFills (applyFills P l₁) l₂ := by
  simp [applyFills, List.foldl_append]

theorem applyMarks_append (P : Position α) (l₁ l₂ : List (α × Int)) :
    applyMarks P (l₁ ++ l₂) = applyMarks (applyMarks P l₁) l₂ := by
  simp [applyMarks, List.foldl_append]

/-! ### what the two methods leave alone, read off `updatePrice_flat` / `transact_flat` -/

theorem updatePrice_fst (P : Position α) (p : α) (t : Int) :
    ∃ pr c, (P.updatePrice p t).1 = { P with price := pr, clock := c } := by
  rw [updatePrice_flat]
  split
  · exact ⟨P.price, P.clock, rfl⟩
  · split
    · exact ⟨P.price, t, rfl⟩
    · exact ⟨p, t, rfl⟩

/-- what `transact` does to the accumulators: nothing for a zero quantity or a refused transaction (the trade's time and
price are validated before the accumulators move; DESIGN §12.5, F4), `transactBuy` for an accepted buy, `transactSell`
for an accepted sell — up to `price` and `clock`. -/
theorem transact_fst (P : Position α) (t : Txn α) :
    ∃ pr c, (P.transact t).1 =
      { (if t.qty = 0 ∨ (P.transact t).2 ≠ none then P
         else if 0 < t.qty then P.transactBuy (ofInt t.qty) t.price t.commission
         else P.transactSell (ofInt (-t.qty)) t.price t.commission) with price := pr, clock := c } := by
  rw [transact_flat]
  by_cases h0 : t.qty = 0
  · rw [if_pos h0, if_pos (Or.inl h0)]; exact ⟨P.price, P.clock, rfl⟩
  rw [if_neg h0]
  by_cases h1 : t.time < P.clock
  · rw [if_pos h1, if_pos (Or.inr (Option.some_ne_none _))]; exact ⟨P.price, P.clock, rfl⟩
  rw [if_neg h1]
  by_cases h2 : le t.price zero = true
  · rw [if_pos h2, if_pos (Or.inr (Option.some_ne_none _))]; exact ⟨P.price, t.time, rfl⟩
  rw [if_neg h2]
  by_cases h3 : 0 < t.qty
  · rw [if_pos h3, if_neg (not_or.mpr ⟨h0, not_not.mpr rfl⟩), if_pos h3]; exact ⟨t.price, t.time, rfl⟩
  · rw [if_neg h3, if_neg (not_or.mpr ⟨h0, not_not.mpr rfl⟩), if_neg h3]; exact ⟨t.price, t.time, rfl⟩

/-- the fills of `fs` that `transact` accepted (returned no error for) when applied left to right
starting from `P`; a refused fill is skipped — it left the accumulators untouched. -/
def accepted (P : Position α) : List (Txn α) → List (Txn α)
  | [] => []
  | t :: ts =>
    if (P.transact t).2.isNone then t :: accepted (P.transact t).1 ts
    else accepted (P.transact t).1 ts

@[simp] theorem accepted_nil (P : Position α) : accepted P [] = [] := rfl

theorem accepted_cons (P : Position α) (t : Txn α) (ts : List (Txn α)) :
    accepted P (t :: ts) = accepted P [t] ++ accepted (P.transact t).1 ts := by
  simp only [accepted]
  split <;> rfl

theorem accepted_sublist (P : Position α) (fs : List (Txn α)) : (accepted P fs).Sublist fs := by
  induction fs generalizing P with
  | nil => simp
  | cons t ts ih =>
    unfold accepted
    split
    · exact (ih _).cons_cons t
    · exact (ih _).cons t

theorem accepted_eq_self (P : Position α) (fs : List (Txn α))
    (h : ∀ pre t post, fs = pre ++ t :: post → ((P.applyFills pre).transact t).2 = none) :
    accepted P fs = fs := by
  induction fs generalizing P with
  | nil => rfl
  | cons t ts ih =>
    have h0 : (P.transact t).2 = none := h [] t ts rfl
    simp only [accepted, h0, Option.isNone_none, if_true]
    rw [ih]
    intro pre u post e
    exact h (t :: pre) u post (by rw [e]; rfl)

end Position

def buys (fs : List (Txn α)) : List (Txn α) := fs.filter (fun t => decide (0 < t.qty))
def sells (fs : List (Txn α)) : List (Txn α) := fs.filter (fun t => decide (t.qty < 0))

end Defs

section Plain
variable {α : Type}

theorem buys_append (l₁ l₂ : List (Txn α)) : buys (l₁ ++ l₂) = buys l₁ ++ buys l₂ := List.filter_append ..
theorem sells_append (l₁ l₂ : List (Txn α)) : sells (l₁ ++ l₂) = sells l₁ ++ sells l₂ := List.filter_append ..

theorem buys_single_pos {t : Txn α} (h : 0 < t.qty) : buys [t] = [t] :=
  List.filter_cons_of_pos (decide_eq_true h)
theorem sells_single_pos {t : Txn α} (h : 0 < t.qty) : sells [t] = [] :=
  List.filter_cons_of_neg (by rw [decide_eq_true_eq]; omega)
theorem buys_single_neg {t : Txn α} (h : t.qty < 0) : buys [t] = [] :=
  List.filter_cons_of_neg (by rw [decide_eq_true_eq]; omega)
theorem sells_single_neg {t : Txn α} (h : t.qty < 0) : sells [t] = [t] :=
  List.filter_cons_of_pos (decide_eq_true h)

end Plain

/-! ## Runs of timestamped steps -/

/-- `hstep`: an admissible input not before the state's clock is handled well and moves the clock to its time -/
theorem foldl_timed {σ ι : Type} (f : σ → ι → σ) (good : σ → ι → Prop) (ok : ι → Prop)
    (clock : σ → Int) (time : ι → Int)
    (hstep : ∀ s x, ok x → clock s ≤ time x → good s x ∧ clock (f s x) = time x) :
    ∀ (xs : List ι) (s : σ), (∀ x ∈ xs, ok x) → (∀ x ∈ xs, clock s ≤ time x) →
      (xs.map time).Pairwise (· ≤ ·) →
      (∀ pre x post, xs = pre ++ x :: post → good (pre.foldl f s) x) ∧
      (∀ u, clock s ≤ u → (∀ x ∈ xs, time x ≤ u) → clock (xs.foldl f s) ≤ u) := by
  intro xs
  induction xs with
  | nil => intro s _ _ _; exact ⟨fun pre x post e => by simp at e, fun u h _ => h⟩
  | cons a xs ih =>
    intro s hok hc hpw
    rw [List.map_cons, List.pairwise_cons] at hpw
    obtain ⟨hg, hcl⟩ := hstep s a (hok a (List.mem_cons_self ..)) (hc a (List.mem_cons_self ..))
    obtain ⟨ih1, ih2⟩ := ih (f s a) (fun x hx => hok x (List.mem_cons_of_mem _ hx))
      (fun x hx => hcl ▸ hpw.1 _ (List.mem_map_of_mem hx)) hpw.2
    refine ⟨fun pre x post e => ?_, fun u _ hu => ih2 u (hcl ▸ hu a (List.mem_cons_self ..))
      fun x hx => hu x (List.mem_cons_of_mem _ hx)⟩
    cases pre with
    | nil => cases e; exact hg
    | cons b pre =>
      injection e with e1 e2
      subst e1
      exact ih1 pre x post e2

section Carrier
variable {α : Type} [Field α] [LinearOrder α] [IsStrictOrderedRing α] [FloorRing α] [NumOps α] [LawfulNumOps α]

def consid (fs : List (Txn α)) : α := (fs.map (fun t => t.price * (t.qty : α))).sum
def commis (fs : List (Txn α)) : α := (fs.map (fun t => t.commission)).sum
def qtySum (fs : List (Txn α)) : α := (fs.map (fun t => (t.qty : α))).sum

/-- The quantifier domain of C03: opening fill `f`, later fills `fs`, re-marks `ms`. -/
structure ValidRun (f : Txn α) (fs : List (Txn α)) (ms : List (α × Int)) : Prop where
  qty_ne : ∀ t ∈ f :: fs, t.qty ≠ 0
  price_pos : ∀ t ∈ f :: fs, 0 < t.price
  mark_pos : ∀ m ∈ ms, 0 < m.1
  times : (((f :: fs).map (fun t => t.time)) ++ ms.map (fun m => m.2)).Pairwise (· ≤ ·)

/-! ### sums over buys / sells -/

/-- a fill with non-zero quantity is a buy or a sell, so every sum over fills splits (the one induction
behind `consid`, `commis`, `qtySum`) -/
theorem sum_map_split (g : Txn α → α) (fs : List (Txn α)) (h : ∀ t ∈ fs, t.qty ≠ 0) :
    (fs.map g).sum = ((buys fs).map g).sum + ((sells fs).map g).sum := by
  induction fs with
  | nil => simp [buys, sells]
  | cons t ts ih =>
    have ih := ih (fun u hu => h u (List.mem_cons_of_mem _ hu))
    have ht := h t (List.mem_cons_self ..)
    unfold buys sells at ih ⊢
    rw [List.map_cons, List.sum_cons, ih, List.filter_cons, List.filter_cons]
    rcases lt_or_gt_of_ne ht with hn | hp
    · rw [if_neg (by simpa using hn.le), if_pos (by simpa using hn), List.map_cons, List.sum_cons,
        add_left_comm]
    · rw [if_pos (by simpa using hp), if_neg (by simpa using hp.le), List.map_cons, List.sum_cons, add_assoc]

/-- on the sells, a summand that negates another gives the negated sum (`|qty| = -qty` there) -/
theorem sum_map_sells_neg (g g' : Txn α → α) (fs : List (Txn α)) (h : ∀ t, t.qty < 0 → g' t = - g t) :
    ((sells fs).map g').sum = - ((sells fs).map g).sum := by
  rw [List.sum_neg, List.map_map]
  refine congrArg List.sum (List.map_congr_left fun t ht => h t ?_)
  simpa [sells] using (List.mem_filter.mp ht).2

@[simp] theorem consid_nil : consid ([] : List (Txn α)) = 0 := rfl
@[simp] theorem commis_nil : commis ([] : List (Txn α)) = 0 := rfl
@[simp] theorem qtySum_nil : qtySum ([] : List (Txn α)) = 0 := rfl
@[simp] theorem consid_single (t : Txn α) : consid [t] = t.price * (t.qty : α) := by simp [consid]
@[simp] theorem commis_single (t : Txn α) : commis [t] = t.commission := by simp [commis]
@[simp] theorem qtySum_single (t : Txn α) : qtySum [t] = (t.qty : α) := by simp [qtySum]
theorem consid_append (l₁ l₂ : List (Txn α)) : consid (l₁ ++ l₂) = consid l₁ + consid l₂ := by
  simp [consid]
theorem commis_append (l₁ l₂ : List (Txn α)) : commis (l₁ ++ l₂) = commis l₁ + commis l₂ := by
  simp [commis]
theorem qtySum_append (l₁ l₂ : List (Txn α)) : qtySum (l₁ ++ l₂) = qtySum l₁ + qtySum l₂ := by
  simp [qtySum]

/-! ## The reachability invariant -/

/-- What the six accumulators of a reachable `Position` are, in terms of the fills made so far (sell quantities are
negative in `fs`, non-negative in the accumulators: hence the minus signs).  `buy_zero` and the first half of `sell_zero`
are what `totalPnl_eq` needs beyond the sums: the code divides the open side's commission by its quantity and drops
the closed side's term of `realised` when that side is empty.  The second half of `sell_zero` follows from its own
hypothesis and is read by nothing. -/
structure Inv (P : Position α) (fs : List (Txn α)) : Prop where
  buyCons : P.avgB * P.buyQ = consid (buys fs)
  buyCom : P.comB = commis (buys fs)
  buyQty : P.buyQ = qtySum (buys fs)
  sellCons : P.avgS * P.sellQ = - consid (sells fs)
  sellCom : P.comS = commis (sells fs)
  sellQty : P.sellQ = - qtySum (sells fs)
  buyQ_nonneg : 0 ≤ P.buyQ
  sellQ_nonneg : 0 ≤ P.sellQ
  buy_zero : P.buyQ = 0 → P.comB = 0
  sell_zero : P.sellQ = 0 → P.comS = 0 ∧ P.avgS * P.sellQ = 0

/-- the invariant does not mention `price` and `clock` -/
theorem Inv.set_price_clock {P : Position α} {fs : List (Txn α)} (h : Inv P fs) (pr : α) (c : Int) :
    Inv { P with price := pr, clock := c } fs :=
  ⟨h.1, h.2, h.3, h.4, h.5, h.6, h.7, h.8, h.9, h.10⟩

theorem inv_openFrom (f : Txn α) (hq : f.qty ≠ 0) : Inv (Position.openFrom f) [f] := by
  unfold Position.openFrom
  rcases lt_or_gt_of_ne hq with hn | hp
  · have e : (ofInt (-f.qty) : α) = -(f.qty : α) := by rw [ofInt_eq, Int.cast_neg]
    have h2 : (0 : α) < -(f.qty : α) := neg_intCast_pos hn
    have eb := buys_single_neg hn
    have es := sells_single_neg hn
    rw [if_neg (by omega)]
    exact {
      buyCons := by dsimp only; rw [eb, zero_eq, mul_zero]; rfl
      buyCom := by dsimp only; rw [eb]; exact zero_eq
      buyQty := by dsimp only; rw [eb]; exact zero_eq
      sellCons := by dsimp only; rw [es, consid_single, e, mul_neg]
      sellCom := by dsimp only; rw [es, commis_single]
      sellQty := by dsimp only; rw [es, qtySum_single, e]
      buyQ_nonneg := by dsimp only; rw [zero_eq]
      sellQ_nonneg := by dsimp only; rw [e]; exact h2.le
      buy_zero := fun _ => zero_eq
      sell_zero := fun h => absurd (e ▸ h) h2.ne' }
  · have e : (ofInt f.qty : α) = (f.qty : α) := ofInt_eq _
    have h2 : (0 : α) < (f.qty : α) := intCast_pos hp
    have eb := buys_single_pos hp
    have es := sells_single_pos hp
    rw [if_pos hp]
    exact {
      buyCons := by dsimp only; rw [eb, consid_single, e]
      buyCom := by dsimp only; rw [eb, commis_single]
      buyQty := by dsimp only; rw [eb, qtySum_single, e]
      sellCons := by dsimp only; rw [es, zero_eq, mul_zero]; exact neg_zero.symm
      sellCom := by dsimp only; rw [es]; exact zero_eq
      sellQty := by dsimp only; rw [es, zero_eq]; exact neg_zero.symm
      buyQ_nonneg := by dsimp only; rw [e]; exact h2.le
      sellQ_nonneg := by dsimp only; rw [zero_eq]
      buy_zero := fun h => absurd (e ▸ h) h2.ne'
      sell_zero := fun _ => ⟨zero_eq, by dsimp only; rw [zero_eq, mul_zero]⟩ }

theorem inv_transactBuy {P : Position α} {fs : List (Txn α)} (h : Inv P fs) (t : Txn α) (hp : 0 < t.qty) :
    Inv (P.transactBuy (ofInt t.qty) t.price t.commission) (fs ++ [t]) := by
  obtain ⟨hnn, hne⟩ := add_pos_step h.buyQ_nonneg (intCast_pos (α := α) hp)
  have eb : buys (fs ++ [t]) = buys fs ++ [t] := by rw [buys_append, buys_single_pos hp]
  have es : sells (fs ++ [t]) = sells fs := by rw [sells_append, sells_single_pos hp, List.append_nil]
  unfold Position.transactBuy
  rw [ofInt_eq]
  refine ⟨?_, ?_, ?_, es ▸ h.sellCons, es ▸ h.sellCom, es ▸ h.sellQty, hnn, h.sellQ_nonneg,
    fun h0 => absurd h0 hne, h.sell_zero⟩
  · rw [eb, consid_append, consid_single, div_mul_cancel₀ _ hne, h.buyCons, mul_comm]
  · rw [eb, commis_append, commis_single, h.buyCom]
  · rw [eb, qtySum_append, qtySum_single, h.buyQty]

theorem inv_transactSell {P : Position α} {fs : List (Txn α)} (h : Inv P fs) (t : Txn α) (hn : t.qty < 0) :
    Inv (P.transactSell (ofInt (-t.qty)) t.price t.commission) (fs ++ [t]) := by
  obtain ⟨hnn, hne⟩ := add_pos_step h.sellQ_nonneg (neg_intCast_pos (α := α) hn)
  have eb : buys (fs ++ [t]) = buys fs := by rw [buys_append, buys_single_neg hn, List.append_nil]
  have es : sells (fs ++ [t]) = sells fs ++ [t] := by rw [sells_append, sells_single_neg hn]
  unfold Position.transactSell
  rw [ofInt_eq, Int.cast_neg]
  refine ⟨eb ▸ h.buyCons, eb ▸ h.buyCom, eb ▸ h.buyQty, ?_, ?_, ?_, h.buyQ_nonneg, hnn, h.buy_zero,
    fun h0 => absurd h0 hne⟩
  · rw [es, consid_append, consid_single, div_mul_cancel₀ _ hne, h.sellCons, neg_add, neg_mul, mul_comm]
  · rw [es, commis_append, commis_single, h.sellCom]
  · rw [es, qtySum_append, qtySum_single, h.sellQty, neg_add]

/-- one `transact` step preserves the invariant, the fill being counted iff it was accepted: a refused
fill left the accumulators as they were, because validation comes before they are touched -/
theorem inv_transact {P : Position α} {fs : List (Txn α)} (h : Inv P fs) (t : Txn α) (hq : t.qty ≠ 0) :
    Inv (P.transact t).1 (fs ++ Position.accepted P [t]) := by
  have hacc : Position.accepted P [t] = if (P.transact t).2.isNone then [t] else [] := rfl
  obtain ⟨pr, c, e⟩ := Position.transact_fst P t
  rw [e, hacc]
  apply Inv.set_price_clock
  cases (P.transact t).2 with
  | some err => rw [if_pos (Or.inr (Option.some_ne_none _))]; simpa using h
  | none =>
    rw [if_neg (not_or.mpr ⟨hq, not_not.mpr rfl⟩)]
    simp only [Option.isNone_none, if_true]
    rcases lt_or_gt_of_ne hq with hn | hp
    · rw [if_neg (by omega)]; exact inv_transactSell h t hn
    · rw [if_pos hp]; exact inv_transactBuy h t hp

theorem inv_updatePrice {P : Position α} {fs : List (Txn α)} (h : Inv P fs) (p : α) (t : Int) :
    Inv (P.updatePrice p t).1 fs := by
  obtain ⟨pr, c, e⟩ := Position.updatePrice_fst P p t
  rw [e]; exact h.set_price_clock pr c

theorem inv_applyFills {P : Position α} {done : List (Txn α)} (h : Inv P done) (fs : List (Txn α))
    (hq : ∀ t ∈ fs, t.qty ≠ 0) : Inv (P.applyFills fs) (done ++ Position.accepted P fs) := by
  induction fs generalizing P done with
  | nil => simpa using h
  | cons t ts ih =>
    rw [Position.accepted_cons, ← List.append_assoc]
    exact ih (inv_transact h t (hq t (List.mem_cons_self ..))) fun u hu => hq u (List.mem_cons_of_mem _ hu)

theorem inv_applyMarks {P : Position α} {done : List (Txn α)} (h : Inv P done) (ms : List (α × Int)) :
    Inv (P.applyMarks ms) done := by
  induction ms generalizing P with
  | nil => simpa using h
  | cons m _ ih => exact ih (inv_updatePrice h m.1 m.2)

/-! ## The algebraic core -/

/-- Total P&L of any `Position` whose accumulators satisfy the four side facts equals market value
minus net consideration minus commissions — long, short and flat. -/
theorem totalPnl_eq (P : Position α) (hB : 0 ≤ P.buyQ) (hS : 0 ≤ P.sellQ)
    (hcb : P.buyQ = 0 → P.comB = 0) (hcs : P.sellQ = 0 → P.comS = 0) :
    P.totalPnl = P.price * P.net - (P.avgB * P.buyQ - P.avgS * P.sellQ) - (P.comB + P.comS) := by
  unfold Position.totalPnl Position.unrealised Position.realised Position.avgPrice
    Position.netInclCommission Position.netTotal Position.commission Position.totalSold
    Position.totalBought
  simp only [beq_eq, lt_eq, zero_eq, decide_eq_true_eq]
  unfold Position.net
  rcases lt_trichotomy (P.buyQ - P.sellQ) 0 with hlt | heq | hgt
  · -- short: every quotient is by `sellQ` and cancels once `comS` is written as a multiple of it
    have hSne : P.sellQ ≠ 0 := fun h0 => not_lt.mpr hB (by rwa [h0, sub_zero] at hlt)
    rw [if_neg hlt.ne, if_neg hlt.ne, if_neg (not_lt.mpr hlt.le), if_neg (not_lt.mpr hlt.le)]
    obtain ⟨k, hk⟩ : ∃ k, P.comS = k * P.sellQ := ⟨_, (div_mul_cancel₀ _ hSne).symm⟩
    rw [hk, ← sub_mul, mul_div_cancel_right₀ _ hSne, div_mul_eq_mul_div, ← mul_assoc,
      mul_div_cancel_right₀ _ hSne]
    by_cases hb0 : P.buyQ = 0
    · rw [if_pos hb0, hcb hb0, hb0]; ring
    · rw [if_neg hb0]; ring
  · -- flat
    rw [if_pos heq, if_pos heq, heq]; ring
  · -- long: the same with `buyQ` and `comB`
    have hBne : P.buyQ ≠ 0 := fun h0 => not_lt.mpr hS (by rw [h0] at hgt; exact sub_pos.mp hgt)
    rw [if_neg hgt.ne', if_neg hgt.ne', if_pos hgt, if_pos hgt]
    obtain ⟨k, hk⟩ : ∃ k, P.comB = k * P.buyQ := ⟨_, (div_mul_cancel₀ _ hBne).symm⟩
    rw [hk, ← add_mul, mul_div_cancel_right₀ _ hBne, div_mul_eq_mul_div, ← mul_assoc,
      mul_div_cancel_right₀ _ hBne]
    by_cases hs0 : P.sellQ = 0
    · rw [if_pos hs0, hcs hs0, hs0]; ring
    · rw [if_neg hs0]; ring

theorem avgPrice_flat (P : Position α) (h : P.net = 0) : P.avgPrice = 0 := by
  unfold Position.avgPrice
  simp only [beq_eq, zero_eq, decide_eq_true_eq]
  rw [if_pos h]

theorem avgPrice_long (P : Position α) (h : 0 < P.net) :
    P.avgPrice = (P.avgB * P.buyQ + P.comB) / P.buyQ := by
  unfold Position.avgPrice
  simp only [beq_eq, lt_eq, zero_eq, decide_eq_true_eq]
  rw [if_neg h.ne', if_pos h]

theorem avgPrice_short (P : Position α) (h : P.net < 0) :
    P.avgPrice = (P.avgS * P.sellQ - P.comS) / P.sellQ := by
  unfold Position.avgPrice
  simp only [beq_eq, lt_eq, zero_eq, decide_eq_true_eq]
  rw [if_neg h.ne, if_neg (not_lt.mpr h.le)]

/-! ## What the invariant alone says about a position (every C03 identity is an instance) -/

theorem Inv.reconcile {P : Position α} {fs : List (Txn α)} (I : Inv P fs) (hq : ∀ t ∈ fs, t.qty ≠ 0) :
    P.totalPnl = P.price * P.net - consid fs - commis fs := by
  rw [totalPnl_eq _ I.buyQ_nonneg I.sellQ_nonneg I.buy_zero (fun h => (I.sell_zero h).1),
    I.buyCons, I.sellCons, I.buyCom, I.sellCom]
  unfold consid commis
  rw [sum_map_split _ fs hq, sum_map_split _ fs hq]
  ring

theorem Inv.net {P : Position α} {fs : List (Txn α)} (I : Inv P fs) (hq : ∀ t ∈ fs, t.qty ≠ 0) :
    P.net = qtySum fs := by
  unfold Position.net
  rw [I.buyQty, I.sellQty]
  unfold qtySum
  rw [sum_map_split _ fs hq]
  ring

theorem Inv.avgPrice_long {P : Position α} {fs : List (Txn α)} (I : Inv P fs) (h : 0 < P.net) :
    P.avgPrice = (consid (buys fs) + commis (buys fs)) / qtySum (buys fs) := by
  rw [Qs.avgPrice_long _ h, I.buyCons, I.buyCom]
  conv_lhs => rw [I.buyQty]

theorem Inv.avgPrice_short {P : Position α} {fs : List (Txn α)} (I : Inv P fs) (h : P.net < 0) :
    P.avgPrice = (((sells fs).map (fun t => t.price * |(t.qty : α)|)).sum - commis (sells fs))
      / ((sells fs).map (fun t => |(t.qty : α)|)).sum := by
  have habs : ∀ t : Txn α, t.qty < 0 → |(t.qty : α)| = -(t.qty : α) := fun t ht =>
    abs_of_neg (by exact_mod_cast ht)
  rw [Qs.avgPrice_short _ h, I.sellCons, I.sellCom,
    sum_map_sells_neg (fun t => t.price * (t.qty : α)) _ _ (fun t ht => by rw [habs t ht, mul_neg]),
    sum_map_sells_neg (fun t => (t.qty : α)) _ _ habs]
  conv_lhs => rw [I.sellQty]
  rfl

/-! ## No errors inside the domain -/

theorem Position.updatePrice_dom (P : Position α) {p : α} {t : Int} (hp : 0 < p) (hc : P.clock ≤ t) :
    P.updatePrice p t = ({ P with clock := t, price := p }, none) := by
  rw [Position.updatePrice_flat, if_neg (not_lt.mpr hc), if_neg]
  rw [le_eq, zero_eq, decide_eq_true_eq]
  exact not_le.mpr hp

theorem Position.transact_dom (P : Position α) (t : Txn α) (hq : t.qty ≠ 0) (hp : 0 < t.price)
    (hc : P.clock ≤ t.time) :
    P.transact t =
      ({ (if 0 < t.qty then P.transactBuy (ofInt t.qty) t.price t.commission
          else P.transactSell (ofInt (-t.qty)) t.price t.commission) with
            price := t.price, clock := t.time }, none) := by
  rw [Position.transact_flat, if_neg hq, if_neg (not_lt.mpr hc), if_neg]
  · split <;> rfl
  · rw [le_eq, zero_eq, decide_eq_true_eq]
    exact not_le.mpr hp

theorem Position.openFrom_net (t : Txn α) : (Position.openFrom t).net = (t.qty : α) := by
  unfold Position.openFrom Position.net
  split <;> simp

theorem Position.transact_net (p : Position α) (t : Txn α) (hq : t.qty ≠ 0) (hp : 0 < t.price)
    (ht : p.clock ≤ t.time) : (p.transact t).1.net = p.net + (t.qty : α) := by
  rw [Position.transact_dom p t hq hp ht]
  unfold Position.net
  split <;> simp only [Position.transactBuy, Position.transactSell, ofInt_eq, Int.cast_neg] <;> ring

theorem transactBuy_clock (P : Position α) (q p c : α) : (P.transactBuy q p c).clock = P.clock := rfl
theorem transactSell_clock (P : Position α) (q p c : α) : (P.transactSell q p c).clock = P.clock := rfl

theorem applyFills_timed (P : Position α) (fs : List (Txn α))
    (hq : ∀ t ∈ fs, t.qty ≠ 0) (hp : ∀ t ∈ fs, 0 < t.price)
    (hc : ∀ t ∈ fs, P.clock ≤ t.time) (hpw : (fs.map (fun t => t.time)).Pairwise (· ≤ ·)) :
    (∀ pre t post, fs = pre ++ t :: post → ((P.applyFills pre).transact t).2 = none) ∧
    (∀ u, P.clock ≤ u → (∀ t ∈ fs, t.time ≤ u) → (P.applyFills fs).clock ≤ u) :=
  foldl_timed (fun p t => (p.transact t).1) (fun p t => (p.transact t).2 = none)
    (fun t => t.qty ≠ 0 ∧ 0 < t.price) Position.clock (fun t => t.time)
    (fun p t ht hc => by rw [Position.transact_dom p t ht.1 ht.2 hc]; exact ⟨rfl, rfl⟩)
    fs P (fun t h => ⟨hq t h, hp t h⟩) hc hpw

theorem applyMarks_noerr (P : Position α) (ms : List (α × Int))
    (hp : ∀ m ∈ ms, 0 < m.1) (hc : ∀ m ∈ ms, P.clock ≤ m.2)
    (hpw : (ms.map (fun m => m.2)).Pairwise (· ≤ ·)) :
    ∀ pre m post, ms = pre ++ m :: post →
      ((P.applyMarks pre).updatePrice m.1 m.2).2 = none :=
  (foldl_timed (fun p m => (p.updatePrice m.1 m.2).1) (fun p m => (p.updatePrice m.1 m.2).2 = none)
    (fun m => 0 < m.1) Position.clock (fun m => m.2)
    (fun p m hm hc => by rw [Position.updatePrice_dom p hm hc]; exact ⟨rfl, rfl⟩) ms P hp hc hpw).1

end Carrier
end Qs
