import QsProofs.Lemmas.Orders
import QsProofs.Lemmas.Calendar
import QsProofs.Lemmas.Market
import QsProofs.Lemmas.Pcm
import QsProofs.Lemmas.SessionStep

/-!
# What the session loop does, stage by stage, and what a constructed session is

The three logs (`allocations`, `equity`, the broker's fill log) only grow (`LogExt`), by records stamped with the event
time; a step outside a rebalance instant with nothing queued does nothing.  Beyond the loop: what C07 observes
(`upTo`), the session's own clock, and `Session.init` as a funded broker plus four checks (`init_eq`).
-/

set_option linter.unusedSectionVars false

namespace Qs

section
variable {α : Type} [Add α] [Sub α] [Mul α] [Div α] [Neg α] [NumOps α]

theorem quotesAt_some {px : Px α} {t : Int} {a : String} {p : α} (h : px t a = some p) :
    quotesAt px t a = some (p, p) := by
  simp [quotesAt, h]

theorem quotesAt_none {px : Px α} {t : Int} {a : String} (h : px t a = none) :
    quotesAt px t a = none := by
  simp [quotesAt, h]

theorem quotesAt_congr {px₁ px₂ : Px α} {t : Int} (h : px₁ t = px₂ t) : quotesAt px₁ t = quotesAt px₂ t := by
  unfold quotesAt; rw [h]

end

end Qs

namespace Qs.Sess

section
variable {α : Type} [Add α] [Sub α] [Mul α] [Div α] [Neg α] [NumOps α]

theorem executeOrders_congr {px₁ px₂ : Px α} {t : Int} (h : px₁ t = px₂ t) :
    ∀ (l : List (String × Int)) (b : Broker α) (n : Nat),
      executeOrders px₁ t b n l = executeOrders px₂ t b n l := by
  intro l
  induction l with
  | nil => exact fun _ _ => rfl
  | cons x rest ih =>
    intro b n
    simp only [executeOrders, quotesAt_congr h]
    split
    · rfl
    · split
      · rfl
      · exact ih _ _

theorem rebalanceAt_congr {px₁ px₂ : Px α} {t : Int} (h : px₁ t = px₂ t) (cfg : SessionCfg α) (alpha : Alpha α)
    (s : Session α) : rebalanceAt cfg alpha px₁ t s = rebalanceAt cfg alpha px₂ t s := by
  simp only [rebalanceAt, h, executeOrders_congr h]

theorem step_congr {px₁ px₂ : Px α} {ev : SimEvent} (h : px₁ ev.time = px₂ ev.time) (cfg : SessionCfg α)
    (alpha : Alpha α) (sched : List Int) (s : Session α) :
    s.step cfg alpha px₁ sched ev = s.step cfg alpha px₂ sched ev := by
  have hs : sigStage cfg px₁ ev = sigStage cfg px₂ ev := funext fun s => by simp only [sigStage, h]
  have hr : rebStage cfg alpha px₁ sched ev.time = rebStage cfg alpha px₂ sched ev.time :=
    funext fun s => by simp only [rebStage, rebalanceAt_congr h]
  rw [step_stages, step_stages, updStage, updStage, quotesAt_congr h, hs, hr]

theorem runEvents_congr {px₁ px₂ : Px α} {events : List SimEvent} (h : ∀ ev ∈ events, px₁ ev.time = px₂ ev.time)
    (cfg : SessionCfg α) (alpha : Alpha α) (sched : List Int) (s : Session α) :
    Session.runEvents cfg alpha px₁ sched s events = Session.runEvents cfg alpha px₂ sched s events := by
  have := runEvents_rel (R := Eq) (cfg₁ := cfg) (cfg₂ := cfg) (alpha₁ := alpha) (alpha₂ := alpha) (px₁ := px₁)
    (px₂ := px₂) (sched₁ := sched) (sched₂ := sched) events
    (fun s _ ev hev hss => by subst hss; rw [step_congr (h ev hev) cfg alpha sched s]; exact ⟨rfl, rfl⟩) s s rfl
  exact Prod.ext this.1 this.2

/-- `L y` is `L x` followed by records that satisfy `P` -/
def LogExt {σ β : Type} (L : σ → List β) (P : β → Prop) (x y : σ) : Prop :=
  ∃ d, L y = L x ++ d ∧ ∀ r ∈ d, P r

section LogExt
variable {σ β : Type} {L : σ → List β} {P : β → Prop} {x y z : σ}

theorem LogExt.refl (L : σ → List β) (P : β → Prop) (x : σ) : LogExt L P x x :=
  ⟨[], (List.append_nil _).symm, fun _ h => nomatch h⟩

theorem LogExt.of_eq (h : LogExt L P x y) (e : L z = L y) : LogExt L P x z := by
  obtain ⟨d, h1, h2⟩ := h
  exact ⟨d, e.trans h1, h2⟩

theorem LogExt.trans (h1 : LogExt L P x y) (h2 : LogExt L P y z) : LogExt L P x z := by
  obtain ⟨d1, a1, b1⟩ := h1
  obtain ⟨d2, a2, b2⟩ := h2
  exact ⟨d1 ++ d2, by rw [a2, a1, List.append_assoc], fun _ hx => (List.mem_append.1 hx).elim (b1 _) (b2 _)⟩

theorem LogExt.mono {P' : β → Prop} (h : LogExt L P x y) (hP : ∀ r, P r → P' r) : LogExt L P' x y := by
  obtain ⟨d, h1, h2⟩ := h
  exact ⟨d, h1, fun r hr => hP r (h2 r hr)⟩

theorem LogExt.filter_le {time : β → Int} {T : Int} (h : LogExt L P x y) (hP : ∀ r, P r → T < time r) :
    (L y).filter (fun r => decide (time r ≤ T)) = (L x).filter (fun r => decide (time r ≤ T)) := by
  obtain ⟨d, h1, h2⟩ := h
  rw [h1]
  exact filter_append_late _ _ _ fun r hr => by
    have := hP r (h2 r hr)
    simp only [decide_eq_false_iff_not]; omega

end LogExt

/-- a fill stamped `t`, made inside exchange hours -/
def FilledAt (t : Int) (f : String × Txn α) : Prop := f.2.time = t ∧ isOpen t = true

theorem update_fills (b : Broker α) (t : Int) (q : Quotes α) : LogExt Broker.fillLog (FilledAt t) b (b.update t q).1 :=
  update_rule (I := fun b' => b'.fillLog = b.fillLog ∧ b'.clock = t) (J := LogExt Broker.fillLog (FilledAt t) b)
    (K := fun _ b' => LogExt Broker.fillLog (FilledAt t) b b' ∧ b'.clock = t ∧ isOpen t = true) b t q
    -- a mark leaves the log and the clock alone
    (hmark := fun b' pid a pr hb =>
      ⟨(applyMark_fillLog b' pid a pr t).trans hb.1, (applyMark_clock b' pid a pr t).trans hb.2⟩)
    -- the update stops after the marks (mark error, or outside hours): nothing logged
    (hstop := fun b1 hb => (LogExt.refl _ _ b).of_eq hb.1)
    -- inside hours the queues are cleared
    (hclear := fun b1 hb ho => ⟨(LogExt.refl _ _ b).of_eq hb.1, hb.2, ho⟩)
    -- one execution logs at most one fill, stamped with the clock
    (hexec := fun b1 b' x _ ⟨hext, hc, ho⟩ => by
      obtain ⟨e1, g1, g2⟩ := executeOrder_stamp b' q x.1 x.2
      exact ⟨hext.trans ⟨e1, g1, fun f hf => ⟨(g2 f hf).trans hc, ho⟩⟩,
        (executeOrder_other b' q x.1 x.2).1.trans hc, ho⟩)
    (hdone := fun _ _ h => h.1)
    (h0 := ⟨rfl, rfl⟩)

/-- what every `submitOrder` of a listed order and every `update` at `t` keep, `executeOrders` keeps — whether
or not it raises -/
theorem executeOrders_inv {I : Broker α → Prop} (px : Px α) (t : Int) :
    ∀ (l : List (String × Int)) (b : Broker α) (n : Nat),
      (∀ b n, ∀ x ∈ l, I b → I (b.submitOrder PORTFOLIO_ID { id := n, asset := x.1, qty := x.2 }).1) →
      (∀ b, I b → I (b.update t (quotesAt px t)).1) → I b → I (executeOrders px t b n l).1 := by
  intro l
  induction l with
  | nil => exact fun _ _ _ _ h => h
  | cons x rest ih =>
    intro b n hsub hupd h
    have h1 := hsub b n x (List.mem_cons_self ..) h
    simp only [executeOrders]
    generalize b.submitOrder PORTFOLIO_ID { id := n, asset := x.1, qty := x.2 } = r at h1 ⊢
    rcases r with ⟨b1, _ | e⟩
    · have h2 := hupd b1 h1
      simp only
      generalize b1.update t (quotesAt px t) = r at h2 ⊢
      rcases r with ⟨b2, _ | e⟩
      · exact ih b2 (n + 1) (fun b n x hx => hsub b n x (List.mem_cons_of_mem _ hx)) hupd h2
      · exact h2
    · exact h1

/-- what every `submitOrder` to the session's portfolio and every `update` at `t` keep, `rebalanceAt` keeps on the
broker -/
theorem rebalanceAt_inv {I : Broker α → Prop} (cfg : SessionCfg α) (alpha : Alpha α) (px : Px α) (t : Int)
    (s : Session α) (hsub : ∀ b o, I b → I (b.submitOrder PORTFOLIO_ID o).1)
    (hupd : ∀ b, I b → I (b.update t (quotesAt px t)).1) (h : I s.broker) :
    I (rebalanceAt cfg alpha px t s).1.broker := by
  simp only [rebalanceAt]
  split
  · exact h
  · exact executeOrders_inv px t _ _ _ (fun b _ _ _ => hsub b _) hupd h

/-! ## Empty queues: an update with nothing queued fills nothing -/

def QueuesEmpty (b : Broker α) : Prop := ∀ e ∈ b.entries, e.queue = []

theorem queuesEmpty_iff_qview (b : Broker α) : QueuesEmpty b ↔ ∀ v ∈ b.qview, v.2 = [] := by
  simp only [QueuesEmpty, Broker.qview, List.mem_map]
  constructor
  · rintro h v ⟨e, he, rfl⟩; exact h e he
  · intro h e he; exact h _ ⟨e, he, rfl⟩

theorem queuesEmpty_congr {b b' : Broker α} (h : b'.qview = b.qview) (hq : QueuesEmpty b) : QueuesEmpty b' := by
  rw [queuesEmpty_iff_qview] at *; rw [h]; exact hq

theorem drained_of_queuesEmpty {b : Broker α} (h : QueuesEmpty b) : b.drained = [] := by
  simp only [Broker.drained, List.flatMap_eq_nil_iff]
  intro e he; rw [h e he]; rfl

theorem queuesEmpty_clear (b : Broker α) : QueuesEmpty b.clearQueues := by
  rw [queuesEmpty_iff_qview, clearQueues_qview]
  intro v hv
  obtain ⟨_, _, rfl⟩ := List.mem_map.1 hv
  rfl

theorem update_idle (b : Broker α) (t : Int) (q : Quotes α) (hq : QueuesEmpty b) :
    (b.update t q).1.fillLog = b.fillLog ∧ QueuesEmpty (b.update t q).1 :=
  update_rule (I := fun b' => b'.fillLog = b.fillLog ∧ QueuesEmpty b')
    (J := fun b' => b'.fillLog = b.fillLog ∧ QueuesEmpty b')
    (K := fun b1 b' => (b'.fillLog = b.fillLog ∧ QueuesEmpty b') ∧ b1.drained = []) b t q
    -- a mark leaves the log and the queues alone
    (hmark := fun b' pid a pr hb =>
      ⟨(applyMark_fillLog b' pid a pr t).trans hb.1, queuesEmpty_congr (applyMark_qview b' pid a pr t) hb.2⟩)
    (hstop := fun _ hb => hb)
    -- inside hours the (empty) queues are cleared: nothing was drained
    (hclear := fun b1 hb _ => ⟨⟨hb.1, queuesEmpty_clear b1⟩, drained_of_queuesEmpty hb.2⟩)
    -- so there is no execution
    (hexec := fun b1 b' x hx hb => by rw [hb.2] at hx; cases hx)
    (hdone := fun _ _ hb => hb.1)
    (h0 := ⟨rfl, hq⟩)

/-- the weight vector `rebalanceAt` records -/
def recordedWeights (cfg : SessionCfg α) (alpha : Alpha α) (t : Int) (s : Session α) : List (String × α) :=
  fullWeightVector (heldOf s.broker) (cfg.uni.assets t) (fixedWeight (alpha t s.signals (cfg.uni.assets t)))

section
variable {α : Type} [Field α] [LinearOrder α] [IsStrictOrderedRing α] [FloorRing α] [NumOps α] [LawfulNumOps α]

/-- `rebalanceAt` with `Lift.sizerOf` and `recordedWeights` named: the statements of C09 speak of both -/
theorem rebalanceAt_eq (cfg : SessionCfg α) (alpha : Alpha α) (px : Px α) (t : Int) (s : Session α) :
    rebalanceAt cfg alpha px t s =
      match Lift.sizerOf cfg (equityOf s.broker) (px t) (recordedWeights cfg alpha t s) with
      | .error e => ({ s with allocations := s.allocations ++ [(t, recordedWeights cfg alpha t s)] }, some e)
      | .ok tq =>
        match executeOrders px t s.broker s.nextId (rebalanceOrders tq (heldOf s.broker)) with
        | (b, n, e) =>
          ({ s with allocations := s.allocations ++ [(t, recordedWeights cfg alpha t s)], broker := b, nextId := n }, e) :=
  rfl

end

/-- `rebalanceAt` always records exactly one allocation `(t, weights)` (before sizing, so also when it raises),
never touches equity or signals, and changes the broker only by `executeOrders` at `t` -/
theorem rebalanceAt_frame (cfg : SessionCfg α) (alpha : Alpha α) (px : Px α) (t : Int) (s : Session α) :
    LogExt Broker.fillLog (FilledAt t) s.broker (rebalanceAt cfg alpha px t s).1.broker ∧
    (rebalanceAt cfg alpha px t s).1.allocations = s.allocations ++ [(t, recordedWeights cfg alpha t s)] ∧
    (rebalanceAt cfg alpha px t s).1.equity = s.equity ∧
    (rebalanceAt cfg alpha px t s).1.signals = s.signals := by
  refine ⟨rebalanceAt_inv cfg alpha px t s (fun b _ h => h.of_eq (submitOrder_fillLog b _ _))
    (fun b h => h.trans (update_fills b t _)) (LogExt.refl ..), ?_⟩
  simp only [rebalanceAt, recordedWeights]
  split <;> exact ⟨rfl, rfl, rfl⟩

theorem rebStage_frame (cfg : SessionCfg α) (alpha : Alpha α) (px : Px α) (sched : List Int) (t : Int)
    (s : Session α) :
    LogExt Broker.fillLog (FilledAt t) s.broker (rebStage cfg alpha px sched t s).1.broker ∧
    (rebStage cfg alpha px sched t s).1.allocations =
      s.allocations ++ (if isReb cfg sched t then [(t, recordedWeights cfg alpha t s)] else []) ∧
    (rebStage cfg alpha px sched t s).1.equity = s.equity ∧
    (rebStage cfg alpha px sched t s).1.signals = s.signals := by
  cases h : isReb cfg sched t
  · rw [rebStage_neg h]
    exact ⟨LogExt.refl .., (List.append_nil _).symm, rfl, rfl⟩
  · rw [rebStage_pos h]
    exact rebalanceAt_frame cfg alpha px t s

theorem step_fills (cfg : SessionCfg α) (alpha : Alpha α) (px : Px α) (sched : List Int) (s : Session α)
    (ev : SimEvent) : LogExt Broker.fillLog (FilledAt ev.time) s.broker (s.step cfg alpha px sched ev).1.broker :=
  step_inv_ba (J := fun b _ => LogExt Broker.fillLog (FilledAt ev.time) s.broker b) cfg alpha px sched s ev
    (update_fills ..) (fun s2 h _ => h.trans (rebalanceAt_frame cfg alpha px ev.time s2).1)

theorem step_idle (cfg : SessionCfg α) (alpha : Alpha α) (px : Px α) (sched : List Int) (s : Session α)
    (ev : SimEvent) (hq : QueuesEmpty s.broker) (hn : isReb cfg sched ev.time = false) :
    (s.step cfg alpha px sched ev).1.broker.fillLog = s.broker.fillLog ∧
    QueuesEmpty (s.step cfg alpha px sched ev).1.broker ∧
    (s.step cfg alpha px sched ev).1.allocations = s.allocations :=
  step_inv_ba (J := fun b al => b.fillLog = s.broker.fillLog ∧ QueuesEmpty b ∧ al = s.allocations)
    cfg alpha px sched s ev
    ⟨(update_idle _ _ _ hq).1, (update_idle _ _ _ hq).2, rfl⟩ (fun _ _ h => by rw [hn] at h; cases h)

theorem step_ok_logs {cfg : SessionCfg α} {alpha : Alpha α} {px : Px α} {sched : List Int} {s s' : Session α}
    {ev : SimEvent} (h : s.step cfg alpha px sched ev = (s', none)) :
    (∃ w, s'.allocations = s.allocations ++ if isReb cfg sched ev.time then [(ev.time, w)] else []) ∧
    s'.equity = s.equity ++ if isEq cfg ev then [(ev.time, (s'.broker.accountTotalEquity).2)] else [] := by
  obtain ⟨b, s2, s3, _, h2, h3, h4⟩ := step_ok_iff.1 h
  have f2 := sigStage_frame cfg px ev { s with broker := b }
  have f3 := rebStage_frame cfg alpha px sched ev.time s2
  have f4 := eqStage_frame cfg ev s3
  rw [h2] at f2; rw [h3] at f3; rw [h4] at f4
  exact ⟨⟨recordedWeights cfg alpha ev.time s2, by rw [f4.2.1, f3.2.1, f2.2.1]⟩,
    by rw [f4.2.2.1, f4.1, f3.2.2.1, f2.2.2.1]⟩

theorem step_ok_noReb {cfg : SessionCfg α} {alpha : Alpha α} {px : Px α} {sched : List Int} {s s' : Session α}
    {ev : SimEvent} (hn : isReb cfg sched ev.time = false) (h : s.step cfg alpha px sched ev = (s', none)) :
    s.broker.update ev.time (quotesAt px ev.time) = (s'.broker, none) ∧ s'.allocations = s.allocations := by
  obtain ⟨b, s2, s3, h1, h2, h3, h4⟩ := step_ok_iff.1 h
  have f2 := sigStage_frame cfg px ev { s with broker := b }
  have f4 := eqStage_frame cfg ev s3
  rw [rebStage_neg hn] at h3
  rw [h2] at f2; rw [h4] at f4; cases h3
  exact ⟨by rw [h1, f4.1, f2.1], by rw [f4.2.1, f2.2.1]⟩

theorem step_ok_reb {cfg : SessionCfg α} {alpha : Alpha α} {px : Px α} {sched : List Int} {s s' : Session α}
    {ev : SimEvent} (hr : isReb cfg sched ev.time = true) (h : s.step cfg alpha px sched ev = (s', none)) :
    ∃ b smid s3, s.broker.update ev.time (quotesAt px ev.time) = (b, none) ∧
      sigStage cfg px ev { s with broker := b } = (smid, none) ∧ smid.broker = b ∧
      smid.allocations = s.allocations ∧
      rebalanceAt cfg alpha px ev.time smid = (s3, none) ∧
      s'.broker = s3.broker ∧ s'.allocations = s3.allocations := by
  obtain ⟨b, s2, s3, h1, h2, h3, h4⟩ := step_ok_iff.1 h
  have f2 := sigStage_frame cfg px ev { s with broker := b }
  have f4 := eqStage_frame cfg ev s3
  rw [h2] at f2; rw [h4] at f4
  rw [rebStage_pos hr] at h3
  exact ⟨b, s2, s3, h1, h2, f2.1, f2.2.1, h3, f4.1, f4.2.1⟩

theorem step_err_equity (cfg : SessionCfg α) (alpha : Alpha α) (px : Px α) (sched : List Int) (s : Session α)
    (ev : SimEvent) (he : (s.step cfg alpha px sched ev).2 ≠ none) :
    (s.step cfg alpha px sched ev).1.equity = s.equity :=
  step_err_inv (I := fun s' => s'.equity = s.equity) cfg alpha px sched s ev rfl
    (fun s1 h => (sigStage_frame cfg px ev s1).2.2.1.trans h)
    (fun s1 h => (rebStage_frame cfg alpha px sched ev.time s1).2.2.1.trans h) he

theorem step_alloc_any (cfg : SessionCfg α) (alpha : Alpha α) (px : Px α) (sched : List Int) (s : Session α)
    (ev : SimEvent) :
    (s.step cfg alpha px sched ev).1.allocations = s.allocations ∨
      (isReb cfg sched ev.time = true ∧
        ∃ w, (s.step cfg alpha px sched ev).1.allocations = s.allocations ++ [(ev.time, w)]) := by
  let F : Session α → Prop := fun s' => s'.allocations = s.allocations ∨
    (isReb cfg sched ev.time = true ∧ ∃ w, s'.allocations = s.allocations ++ [(ev.time, w)])
  let I : Session α → Prop := fun s' => s'.allocations = s.allocations
  refine step_hoare (F := F) (I₁ := I) (I₂ := I) (I₃ := F) cfg alpha px sched s ev
    ⟨Or.inl rfl, fun _ => rfl⟩ ?_ ?_ ?_
  · intro s1 h
    have := (sigStage_frame cfg px ev s1).2.1.trans h
    exact ⟨Or.inl this, fun _ => this⟩
  · intro s1 h
    have h3 := (rebStage_frame cfg alpha px sched ev.time s1).2.1
    rw [h] at h3
    have : F (rebStage cfg alpha px sched ev.time s1).1 := by
      by_cases hr : isReb cfg sched ev.time = true
      · rw [if_pos hr] at h3; exact Or.inr ⟨hr, _, h3⟩
      · rw [if_neg hr, List.append_nil] at h3; exact Or.inl h3
    exact ⟨this, fun _ => this⟩
  · exact fun s1 h => h.imp ((eqStage_frame cfg ev s1).2.1.trans ·)
      fun ⟨hr, w, h⟩ => ⟨hr, w, (eqStage_frame cfg ev s1).2.1.trans h⟩

theorem step_alloc_stamp (cfg : SessionCfg α) (alpha : Alpha α) (px : Px α) (sched : List Int) (s : Session α)
    (ev : SimEvent) : LogExt (·.allocations) (fun r => r.1 = ev.time) s (s.step cfg alpha px sched ev).1 := by
  rcases step_alloc_any cfg alpha px sched s ev with h | ⟨_, w, h⟩
  · exact (LogExt.refl ..).of_eq h
  · exact ⟨[(ev.time, w)], h, fun r hr => List.mem_singleton.1 hr ▸ rfl⟩

theorem step_equity_stamp (cfg : SessionCfg α) (alpha : Alpha α) (px : Px α) (sched : List Int) (s : Session α)
    (ev : SimEvent) : LogExt (·.equity) (fun r => r.1 = ev.time) s (s.step cfg alpha px sched ev).1 := by
  by_cases he : (s.step cfg alpha px sched ev).2 = none
  · refine ⟨_, (step_ok_logs (Prod.ext rfl he : s.step cfg alpha px sched ev = (_, none))).2, fun r hr => ?_⟩
    split at hr
    · exact List.mem_singleton.1 hr ▸ rfl
    · cases hr
  · exact (LogExt.refl ..).of_eq (step_err_equity cfg alpha px sched s ev he)

theorem runEvents_ext {β : Type} (L : Session α → List β) (P : SimEvent → β → Prop)
    (cfg : SessionCfg α) (alpha : Alpha α) (px : Px α) (sched : List Int)
    (hstep : ∀ s ev, LogExt L (P ev) s (s.step cfg alpha px sched ev).1)
    (events : List SimEvent) (s : Session α) :
    LogExt L (fun x => ∃ ev ∈ events, P ev x) s (Session.runEvents cfg alpha px sched s events).1 :=
  runEvents_inv (I := LogExt L (fun x => ∃ ev ∈ events, P ev x) s) cfg alpha px sched s events
    (fun s1 ev hev h => h.trans ((hstep s1 ev).mono fun _ hx => ⟨ev, hev, hx⟩)) (LogExt.refl ..)

theorem runEvents_fills (cfg : SessionCfg α) (alpha : Alpha α) (px : Px α) (sched : List Int)
    (events : List SimEvent) (s : Session α) :
    LogExt (·.broker.fillLog) (fun f => ∃ ev ∈ events, f.2.time = ev.time ∧ isOpen ev.time = true) s
      (Session.runEvents cfg alpha px sched s events).1 :=
  runEvents_ext (·.broker.fillLog) _ cfg alpha px sched (fun s ev => step_fills cfg alpha px sched s ev)
    events s

theorem fills_of_ext {s s' : Session α} {Q : Int → Prop}
    (h : LogExt (·.broker.fillLog) (fun f => Q f.2.time) s s') :
    ∃ ef, s'.fills = s.fills ++ ef ∧ ∀ f ∈ ef, Q f.time := by
  obtain ⟨ef, f1, f2⟩ := h
  refine ⟨ef.map fun (x : String × Txn α) =>
    { time := x.2.time, asset := x.2.asset, qty := x.2.qty, price := x.2.price, commission := x.2.commission },
    by simp only [Session.fills, f1, List.map_append], fun f hf => ?_⟩
  obtain ⟨x, hx, rfl⟩ := List.mem_map.1 hf
  exact f2 x hx

/-- no fill precedes the first rebalance: over time-sorted events, started with empty queues, every fill of
the run is dated at or after an event time that is a scheduled instant past the burn-in -/
theorem runEvents_fills_after_reb (cfg : SessionCfg α) (alpha : Alpha α) (px : Px α) (sched : List Int) :
    ∀ (events : List SimEvent) (s : Session α), QueuesEmpty s.broker →
      (events.map (·.time)).Pairwise (· ≤ ·) →
      ∃ ef, (Session.runEvents cfg alpha px sched s events).1.broker.fillLog = s.broker.fillLog ++ ef ∧
        ∀ f ∈ ef, ∃ ev0 ∈ events, isReb cfg sched ev0.time = true ∧ ev0.time ≤ f.2.time := by
  intro events
  induction events with
  | nil => exact fun s _ _ => ⟨[], (List.append_nil _).symm, fun _ h => nomatch h⟩
  | cons ev rest ih =>
    intro s hq hs
    rw [List.map_cons, List.pairwise_cons] at hs
    by_cases hr : isReb cfg sched ev.time = true
    · -- `ev` is a rebalance instant, and every fill of the run is stamped with an event time `≥ ev.time`
      obtain ⟨ef, f1, f2⟩ := runEvents_fills cfg alpha px sched (ev :: rest) s
      refine ⟨ef, f1, fun f hf => ⟨ev, List.mem_cons_self .., hr, ?_⟩⟩
      obtain ⟨ev', hm, ht, _⟩ := f2 f hf
      rw [ht]
      rcases List.mem_cons.1 hm with rfl | hm
      · exact Int.le_refl _
      · exact hs.1 _ (List.mem_map_of_mem hm)
    · have h1 := step_idle cfg alpha px sched s ev hq (Bool.eq_false_iff.2 hr)
      rw [runEvents_cons]
      generalize s.step cfg alpha px sched ev = r at h1 ⊢
      rcases r with ⟨s1, _ | er⟩
      · obtain ⟨ef, f1, f2⟩ := ih s1 h1.2.1 hs.2
        refine ⟨ef, f1.trans (by rw [h1.1]), fun f hf => ?_⟩
        obtain ⟨ev0, m, h⟩ := f2 f hf
        exact ⟨ev0, List.mem_cons_of_mem _ m, h⟩
      · exact ⟨[], (List.append_nil _).symm ▸ h1.1, fun _ h => nomatch h⟩

/-! ## What is observable up to a time `T` (C07) -/

/-- the part of a run result dated on or before `T`: allocation records, fills, equity points, and the error if
it was raised at a time `≤ T` -/
def upTo (T : Int) (r : Session α × Option (Int × Err)) :
    List (Int × List (String × α)) × List (Fill α) × List (Int × α) × Option (Int × Err) :=
  (r.1.allocations.filter (fun x => decide (x.1 ≤ T)),
   r.1.fills.filter (fun f => decide (f.time ≤ T)),
   r.1.equity.filter (fun x => decide (x.1 ≤ T)),
   r.2.filter (fun x => decide (x.1 ≤ T)))

theorem split_at_time (events : List SimEvent) (T : Int) (hs : (events.map (·.time)).Pairwise (· ≤ ·)) :
    ∃ pre post, events = pre ++ post ∧ (∀ ev ∈ pre, ev.time ≤ T) ∧ (∀ ev ∈ post, T < ev.time) := by
  induction events with
  | nil => exact ⟨[], [], rfl, fun _ h => (nomatch h), fun _ h => (nomatch h)⟩
  | cons ev rest ih =>
    rw [List.map_cons, List.pairwise_cons] at hs
    by_cases ht : ev.time ≤ T
    · obtain ⟨pre, post, rfl, hpre, hpost⟩ := ih hs.2
      exact ⟨ev :: pre, post, rfl, fun e he => (List.mem_cons.1 he).elim (fun h => h ▸ ht) (hpre e), hpost⟩
    · refine ⟨[], ev :: rest, rfl, fun _ h => (nomatch h), fun e he => ?_⟩
      rcases List.mem_cons.1 he with rfl | he
      · omega
      · have := hs.1 _ (List.mem_map_of_mem he); omega

/-- events later than `T` leave everything dated `≤ T` alone: they only append records stamped with their own
times, and an error they raise is dated after `T` -/
theorem upTo_late (cfg : SessionCfg α) (alpha : Alpha α) (px : Px α) (sched : List Int) (T : Int)
    (events : List SimEvent) (s : Session α) (hl : ∀ ev ∈ events, T < ev.time) :
    upTo T (Session.runEvents cfg alpha px sched s events) = upTo T (s, none) := by
  have hrun := fun {β : Type} (L : Session α → List β) (P : SimEvent → β → Prop) hstep =>
    runEvents_ext L P cfg alpha px sched hstep events s
  unfold upTo
  refine Prod.ext ?_ (Prod.ext ?_ (Prod.ext ?_ ?_))
  · exact (hrun (·.allocations) _ (step_alloc_stamp cfg alpha px sched)).filter_le
      (time := (·.1)) fun x ⟨ev, hm, hx⟩ => hx ▸ hl ev hm
  · simp only [Session.fills, List.filter_map]
    exact congrArg _ ((runEvents_fills cfg alpha px sched events s).filter_le
      (time := (·.2.time)) fun x ⟨ev, hm, hx, _⟩ => hx ▸ hl ev hm)
  · exact (hrun (·.equity) _ (step_equity_stamp cfg alpha px sched)).filter_le
      (time := (·.1)) fun x ⟨ev, hm, hx⟩ => hx ▸ hl ev hm
  · rcases hr : (Session.runEvents cfg alpha px sched s events).2 with _ | ⟨te, e⟩
    · rfl
    · obtain ⟨ev, hm, rfl⟩ := runEvents_err_time cfg alpha px sched events s te e hr
      have := hl ev hm
      simp only [Option.filter, decide_eq_true_eq]
      rw [if_neg (by omega)]

/-! ## The session's own clock: `simEvents start end false false` (the `_ff` lemmas) -/

theorem open_of_simEvents_ff {start end_ : Int} {evs : List SimEvent}
    (h : simEvents start end_ false false = .ok evs) {ev : SimEvent} (hev : ev ∈ evs) :
    isOpen ev.time = true ↔ ev.kind = .marketOpen := by
  obtain ⟨d, -, -, hd, rfl | rfl⟩ := Cal.mem_clock_ff h hev
  · simp [isOpen_open d hd]
  · simp [isOpen_close d]

theorem filter_isEq_templates (cfg : SessionCfg α) (days : List Int) :
    ((days.flatMap (dayTemplate false false)).filter (isEq cfg)).map (·.time) =
      (days.filter (fun d => burnOk cfg (d * 86400 + CLOSE))).map (fun d => d * 86400 + CLOSE) := by
  induction days with
  | nil => rfl
  | cons d rest ih =>
    rw [List.flatMap_cons, List.filter_append, List.map_append, ih, Cal.dayTemplate_ff]
    simp only [List.filter_cons, isEq]
    cases hb : burnOk cfg (d * 86400 + CLOSE) <;> simp

/-! ## `Session.init` -/

/-- the broker `BacktestTradingSession.__init__` builds: a new broker, one portfolio, funded with the initial cash -/
def initBroker (cfg : SessionCfg α) : Except Err (Broker α) := do
  let b0 ← Broker.new cfg.start cfg.initialCash cfg.fee
  let b1 ← (match b0.createPortfolio PORTFOLIO_ID with | (b, none) => .ok b | (_, some e) => .error e)
  (match b1.subscribePortfolio PORTFOLIO_ID cfg.initialCash with | (b, none) => .ok b | (_, some e) => .error e)

/-- the session that starts on it: the configured signals track the universe at the start instant -/
def initSession (cfg : SessionCfg α) (b : Broker α) : Session α :=
  { broker := b, signals := cfg.signalSpecs.map fun specs =>
      ({ signals := specs.map fun (k, ls) => Signal.new k ls (cfg.uni.assets cfg.start) } : SignalsCollection α) }

theorem init_eq (cfg : SessionCfg α) :
    Session.init cfg = (do
      let b ← initBroker cfg
      let events ← simEvents cfg.start cfg.end_ false false
      let sched ← scheduleOf cfg
      let _ ← (if cfg.longOnly then dwCheckBuffer cfg.param else lsCheckLeverage cfg.param)
      pure (initSession cfg b, events, sched)) := by
  -- the flat `do` block of the model, regrouped: associativity of `bind`
  unfold Session.init initBroker initSession
  simp only [bind_assoc]
  rfl

/-- how the examples read a construction off the kernel: `p` is evaluated on the value, the value is not written out -/
theorem ok_of_test {ε β : Type} {x : Except ε β} (p : β → Bool)
    (h : (match x with | .ok r => p r | .error _ => false) = true) : ∃ r, x = .ok r ∧ p r = true := by
  cases x with
  | error e => cases h
  | ok r => exact ⟨r, rfl, h⟩

theorem init_iff {cfg : SessionCfg α} {s0 : Session α} {events : List SimEvent} {sched : List Int} :
    Session.init cfg = .ok (s0, events, sched) ↔
      ∃ b u, initBroker cfg = .ok b ∧ simEvents cfg.start cfg.end_ false false = .ok events ∧
        scheduleOf cfg = .ok sched ∧
        (if cfg.longOnly then dwCheckBuffer cfg.param else lsCheckLeverage cfg.param) = .ok u ∧
        s0 = initSession cfg b := by
  rw [init_eq]
  simp only [bind_eq_ok_iff, pure, Except.pure, Except.ok.injEq, Prod.mk.injEq]
  constructor
  · rintro ⟨b, hb, _, h1, _, h2, u, hu, rfl, rfl, rfl⟩
    exact ⟨b, u, hb, h1, h2, hu, rfl⟩
  · rintro ⟨b, u, hb, h1, h2, hu, rfl⟩
    exact ⟨b, hb, _, h1, _, h2, u, hu, rfl, rfl, rfl⟩

theorem initBroker_fresh {cfg : SessionCfg α} {b : Broker α} (h : initBroker cfg = .ok b) :
    (∀ e ∈ b.entries, e.pf.positions = [] ∧ e.queue = []) ∧ b.fillLog = [] := by
  unfold initBroker at h
  simp only [bind, Except.bind] at h
  split at h
  · cases h
  · rename_i b0 h0
    -- the new broker has no portfolio; the two transfers keep "stores nothing" and the empty log
    have q0 : (∀ e ∈ b0.entries, e.pf.positions = [] ∧ e.queue = []) ∧ b0.fillLog = [] :=
      ⟨fun _ he => (by rw [(new_fresh h0).1] at he; cases he), (new_fresh h0).2⟩
    have c1 := createPortfolio_fresh b0 PORTFOLIO_ID q0.1
    generalize b0.createPortfolio PORTFOLIO_ID = r1 at h c1
    rcases r1 with ⟨b1, _ | e⟩
    · have c2 := subscribePortfolio_fresh b1 PORTFOLIO_ID cfg.initialCash c1.1
      simp only at h
      generalize b1.subscribePortfolio PORTFOLIO_ID cfg.initialCash = r2 at h c2
      rcases r2 with ⟨b2, _ | e⟩
      · cases h; exact ⟨c2.1, c2.2.trans (c1.2.trans q0.2)⟩
      · cases h
    · cases h

section
variable {α : Type} [Field α] [LinearOrder α] [IsStrictOrderedRing α] [FloorRing α] [NumOps α] [LawfulNumOps α]

theorem initBroker_nonneg {cfg : SessionCfg α} {b : Broker α} (h : initBroker cfg = .ok b) : 0 ≤ cfg.initialCash := by
  by_contra hc
  unfold initBroker Broker.new at h
  rw [if_pos (by rw [lt_eq, zero_eq]; exact decide_eq_true (not_le.mp hc))] at h
  cases h

/-- with non-negative initial cash the three broker steps succeed; the funded broker, written out: `Broker.new` keeps
the cash on the master account, `createPortfolio` meets no portfolio, `subscribePortfolio` moves all of it -/
theorem initBroker_eq (cfg : SessionCfg α) (hcash : 0 ≤ cfg.initialCash) :
    initBroker cfg = .ok
      { clock := cfg.start, master := 0, fee := cfg.fee,
        entries := [{ pf :=
          { id := PORTFOLIO_ID, clock := cfg.start, cash := cfg.initialCash,
            history := [{ time := cfg.start, kind := .subscription, debit := 0, credit := NumOps.round2 cfg.initialCash,
                          balance := NumOps.round2 cfg.initialCash, rawAmount := cfg.initialCash,
                          rawBalance := cfg.initialCash }] } }] } := by
  have hmaster : (if decide ((0 : α) < cfg.initialCash) = true then cfg.initialCash else 0) = cfg.initialCash := by
    simp only [decide_eq_true_eq]
    split
    · rfl
    · rename_i h'; exact le_antisymm hcash (not_lt.mp h')
  unfold initBroker
  simp only [Broker.new, lt_eq, zero_eq, not_lt.mpr hcash, decide_false, Bool.false_eq_true, if_false,
    bind, Except.bind, Broker.createPortfolio, Broker.has, List.any_nil, List.nil_append,
    Broker.subscribePortfolio, Broker.find?, List.find?_cons, Portfolio.new, beq_self_eq_true,
    Portfolio.subscribe, lt_irrefl, Broker.setPf, List.map_cons, List.map_nil, if_true, hmaster, zero_add, sub_self]

end

/-- a freshly constructed session stores nothing and has recorded nothing; its clock and schedule are those of the
configuration -/
theorem init_fresh {cfg : SessionCfg α} {s0 : Session α} {events : List SimEvent} {sched : List Int}
    (h : Session.init cfg = .ok (s0, events, sched)) :
    (∀ e ∈ s0.broker.entries, e.pf.positions = [] ∧ e.queue = []) ∧ s0.broker.fillLog = [] ∧
    s0.allocations = [] ∧ s0.equity = [] ∧
    simEvents cfg.start cfg.end_ false false = .ok events ∧ scheduleOf cfg = .ok sched := by
  obtain ⟨b, _, hb, h3, h4, _, rfl⟩ := init_iff.1 h
  exact ⟨(initBroker_fresh hb).1, (initBroker_fresh hb).2, rfl, rfl, h3, h4⟩

theorem run_eq (cfg : SessionCfg α) (alpha : Alpha α) (px : Px α) :
    Session.run cfg alpha px =
      (Session.init cfg).map (fun r => Session.runEvents cfg alpha px r.2.2 r.1 r.2.1) := by
  unfold Session.run
  cases Session.init cfg with
  | error e => rfl
  | ok r => rfl

end
end Qs.Sess
