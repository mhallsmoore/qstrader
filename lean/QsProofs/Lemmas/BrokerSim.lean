import QsProofs.Lemmas.BrokerObs

/-!
# "Equal up to clocks, earlier clocks": the simulation behind `C15_sequences`

`Le σ σ'` : the two broker states agree on everything except portfolio / position clocks, and every clock of
`σ` is `≤` the corresponding clock of `σ'`.  All clock tests of the model are of the form
`t < clock ⇒ refuse`, hence
* an op accepted by `σ'` is accepted by `σ`, with `Le`-related results (`*_acc`);
* a refused op only advances clocks: `Le σ (step σ op).1` (`*_ref`) — this includes every refused
  `applyTxn`: `Position.transact` validates price and time before it moves the quantities.
Both are proved method by method, then for `Broker.call`, then for `step`.

`update` is excluded throughout (`hnu`, `NoUpdate`): it raises at the first failing mark or order, after the earlier
ones have taken effect, so a refused `update` may have filled orders and is no clock-only change
(`C01Example`: the refused `update` with `extFlow = -11`).
-/

set_option linter.unusedSectionVars false

namespace Qs
open NumOps

section
variable {α : Type}

/-- same position, possibly earlier clock -/
def PosLe (q q' : Position α) : Prop := q.clock ≤ q'.clock ∧ q' = { q with clock := q'.clock }

theorem PosLe.refl (q : Position α) : PosLe q q := ⟨le_refl _, rfl⟩

theorem PosLe.trans {a b c : Position α} (h1 : PosLe a b) (h2 : PosLe b c) : PosLe a c := by
  refine ⟨le_trans h1.1 h2.1, ?_⟩
  rw [h2.2, h1.2]

theorem PosLe.asset {q q' : Position α} (h : PosLe q q') : q'.asset = q.asset := by rw [h.2]

theorem posLe_of_clock (q : Position α) (c : Int) (h : q.clock ≤ c) : PosLe q { q with clock := c } :=
  ⟨h, rfl⟩

theorem posFind_le {ps ps' : Positions α} (h : List.Forall₂ PosLe ps ps') (a : String) :
    (Positions.find? ps' a = none → Positions.find? ps a = none) ∧
    (∀ q', Positions.find? ps' a = some q' → ∃ q, Positions.find? ps a = some q ∧ PosLe q q') :=
  find?_forall₂ (fun q : Position α => q.asset) (fun _ _ h => h.asset) h a

theorem set_le {ps ps' : Positions α} (h : List.Forall₂ PosLe ps ps') {r r' : Position α}
    (hr : PosLe r r') : List.Forall₂ PosLe (Positions.set ps r) (Positions.set ps' r') := by
  unfold Positions.set
  rw [hr.asset]
  exact forall₂_upd_upd (fun q : Position α => q.asset) h (fun _ _ k => k.asset) r.asset (fun _ _ _ => hr)

/-- same portfolio, possibly earlier clocks -/
structure PfLe (p p' : Portfolio α) : Prop where
  id : p'.id = p.id
  cash : p'.cash = p.cash
  history : p'.history = p.history
  clock : p.clock ≤ p'.clock
  pos : List.Forall₂ PosLe p.positions p'.positions

theorem PfLe.refl (p : Portfolio α) : PfLe p p :=
  ⟨rfl, rfl, rfl, le_refl _, List.forall₂_same.mpr fun a _ => PosLe.refl a⟩

theorem PfLe.trans {a b c : Portfolio α} (h1 : PfLe a b) (h2 : PfLe b c) : PfLe a c :=
  ⟨h2.id.trans h1.id, h2.cash.trans h1.cash, h2.history.trans h1.history, le_trans h1.clock h2.clock,
    forall₂_trans h1.pos h2.pos (fun _ _ _ => PosLe.trans)⟩

def EnLe (e e' : PfEntry α) : Prop := e'.queue = e.queue ∧ PfLe e.pf e'.pf

/-- equal up to portfolio / position clocks; the clocks of `σ` are the earlier ones -/
def Le (σ σ' : Broker α) : Prop :=
  σ'.master = σ.master ∧ σ'.clock = σ.clock ∧ List.Forall₂ EnLe σ.entries σ'.entries

theorem EnLe.refl (e : PfEntry α) : EnLe e e := ⟨rfl, PfLe.refl _⟩

theorem Le.refl (σ : Broker α) : Le σ σ := ⟨rfl, rfl, List.forall₂_same.mpr fun a _ => EnLe.refl a⟩

theorem Le.trans {a b c : Broker α} (h1 : Le a b) (h2 : Le b c) : Le a c :=
  ⟨h2.1.trans h1.1, h2.2.1.trans h1.2.1,
    forall₂_trans h1.2.2 h2.2.2 (fun _ _ _ k1 k2 => ⟨k2.1.trans k1.1, k1.2.trans k2.2⟩)⟩

theorem find_le {σ σ' : Broker α} (h : Le σ σ') (pid : String) :
    (σ'.find? pid = none → σ.find? pid = none) ∧
    (∀ e', σ'.find? pid = some e' → ∃ e, σ.find? pid = some e ∧ EnLe e e') :=
  find?_forall₂ (fun e : PfEntry α => e.pf.id) (fun _ _ h => h.2.id) h.2.2 pid

theorem setPf_le {σ σ' : Broker α} (h : Le σ σ') {p p' : Portfolio α} (hp : PfLe p p') :
    List.Forall₂ EnLe (σ.setPf p).entries (σ'.setPf p').entries := by
  unfold Broker.setPf
  rw [hp.id]
  exact forall₂_upd_upd (fun e : PfEntry α => e.pf.id) h.2.2 (fun _ _ k => k.2.id) p.id (fun _ _ k => ⟨k.1, hp⟩)

theorem setEntry_le {σ σ' : Broker α} (h : Le σ σ') {e e' : PfEntry α} (he : EnLe e e') :
    List.Forall₂ EnLe (σ.setEntry e).entries (σ'.setEntry e').entries := by
  unfold Broker.setEntry
  rw [he.2.id]
  exact forall₂_upd_upd (fun e : PfEntry α => e.pf.id) h.2.2 (fun _ _ k => k.2.id) e.pf.id (fun _ _ _ => he)

end

section
variable {α : Type} [Field α] [LinearOrder α] [IsStrictOrderedRing α] [FloorRing α] [NumOps α]
  [LawfulNumOps α]

theorem PosLe.net {q q' : Position α} (h : PosLe q q') : q'.net = q.net := by rw [h.2]; rfl

theorem updatePrice_acc {q q' : Position α} (h : PosLe q q') (pr : α) (t : Int)
    (hacc : (q'.updatePrice pr t).2 = none) :
    (q.updatePrice pr t).2 = none ∧ PosLe (q.updatePrice pr t).1 (q'.updatePrice pr t).1 := by
  rw [updatePrice_eq] at hacc
  by_cases h1 : t < q'.clock
  · rw [if_pos h1] at hacc; cases hacc
  · by_cases h2 : pr ≤ 0
    · rw [if_neg h1, if_pos h2] at hacc; cases hacc
    · rw [updatePrice_eq q, updatePrice_eq q', if_neg h1, if_neg h2,
        if_neg (fun h3 => h1 (lt_of_lt_of_le h3 h.1)), if_neg h2]
      exact ⟨rfl, le_refl _, by rw [h.2]⟩

theorem updatePrice_ref (q : Position α) (pr : α) (t : Int) {e : Err}
    (h : (q.updatePrice pr t).2 = some e) : PosLe q (q.updatePrice pr t).1 := by
  rw [updatePrice_eq] at h ⊢
  by_cases h1 : t < q.clock
  · rw [if_pos h1]; exact PosLe.refl q
  · by_cases h2 : pr ≤ 0
    · rw [if_neg h1, if_pos h2]; exact posLe_of_clock q t (not_lt.mp h1)
    · rw [if_neg h1, if_neg h2] at h; cases h

theorem transact_acc {q q' : Position α} (h : PosLe q q') (t : Txn α)
    (hacc : (q'.transact t).2 = none) :
    (q.transact t).2 = none ∧ PosLe (q.transact t).1 (q'.transact t).1 := by
  rw [transact_eq] at hacc
  rw [transact_eq q, transact_eq q']
  by_cases h0 : t.qty = 0
  · rw [if_pos h0, if_pos h0]; exact ⟨rfl, h⟩
  · by_cases h1 : t.time < q'.clock
    · rw [if_neg h0, if_pos h1] at hacc; cases hacc
    · by_cases h2 : t.price ≤ 0
      · rw [if_neg h0, if_neg h1, if_pos h2] at hacc; cases hacc
      · rw [if_neg h0, if_neg h0, if_neg h1, if_neg h2, if_neg (fun h3 => h1 (lt_of_lt_of_le h3 h.1)), if_neg h2]
        by_cases h3 : 0 < t.qty
        · rw [if_pos h3, if_pos h3]; exact ⟨rfl, le_refl _, by rw [h.2]⟩
        · rw [if_neg h3, if_neg h3]; exact ⟨rfl, le_refl _, by rw [h.2]⟩

/-- validation precedes the quantity update -/
theorem transact_ref (q : Position α) (t : Txn α) {e : Err} (h : (q.transact t).2 = some e) :
    PosLe q (q.transact t).1 := by
  rw [transact_eq] at h ⊢
  by_cases h0 : t.qty = 0
  · rw [if_pos h0] at h; cases h
  · by_cases h1 : t.time < q.clock
    · rw [if_neg h0, if_pos h1]; exact PosLe.refl q
    · by_cases h2 : t.price ≤ 0
      · rw [if_neg h0, if_neg h1, if_pos h2]; exact posLe_of_clock q _ (not_lt.mp h1)
      · rw [if_neg h0, if_neg h1, if_neg h2] at h; split at h <;> cases h

theorem transactPosition_acc {ps ps' : Positions α} (h : List.Forall₂ PosLe ps ps') (t : Txn α)
    (hacc : (ps'.transactPosition t).2 = none) :
    (ps.transactPosition t).2 = none ∧
      List.Forall₂ PosLe (ps.transactPosition t).1 (ps'.transactPosition t).1 := by
  obtain ⟨hn, hs⟩ := posFind_le h t.asset
  rw [Positions.transactPosition_out] at hacc
  cases hf' : Positions.find? ps' t.asset with
  | none =>
    simp only [Positions.transactPosition_flat, hf', hn hf']
    split
    · exact ⟨rfl, h⟩
    · exact ⟨rfl, List.rel_append h (.cons (PosLe.refl _) .nil)⟩
  | some q' =>
    obtain ⟨q, hf, hqq⟩ := hs q' hf'
    rw [hf'] at hacc
    obtain ⟨k1, k2⟩ := transact_acc hqq t hacc
    -- the nets agree, so both sides take the same branch: erase the position or store it
    simp only [Positions.transactPosition_flat, hf, hf', k1, hacc, true_and, k2.net]
    split
    · exact ⟨rfl, List.rel_filter (fun a b hab => by dsimp only; rw [hab.asset]) h⟩
    · exact ⟨rfl, set_le h k2⟩

/-- replacing the found position by a later-clock version of itself -/
theorem set_adv {ps : Positions α} {a : String} {pos pos' : Position α} (hn : (ps.map (·.asset)).Nodup)
    (hf : Positions.find? ps a = some pos) (hadv : PosLe pos pos') :
    List.Forall₂ PosLe ps (Positions.set ps pos') := by
  have ha : pos'.asset = a := hadv.asset.trans (Positions.find?_some hf).2
  subst ha
  exact forall₂_upd (fun q : Position α => q.asset) (fun _ => pos') pos'.asset hn hf (fun q _ _ => PosLe.refl q) hadv

theorem transactPosition_ref (ps : Positions α) (t : Txn α) (hn : (ps.map (·.asset)).Nodup) {e : Err}
    (h : (ps.transactPosition t).2 = some e) : List.Forall₂ PosLe ps (ps.transactPosition t).1 := by
  obtain ⟨pos, hf, herr, hset⟩ := Positions.transactPosition_err ps t h
  rw [hset]
  exact set_adv hn hf (transact_ref pos t herr)

theorem subscribe_acc {p p' : Portfolio α} (h : PfLe p p') (t : Int) (a : α)
    (hacc : (p'.subscribe t a).2 = none) :
    (p.subscribe t a).2 = none ∧ PfLe (p.subscribe t a).1 (p'.subscribe t a).1 := by
  rw [subscribe_eq] at hacc
  by_cases h1 : t < p'.clock
  · rw [if_pos h1] at hacc; cases hacc
  · by_cases h2 : a < 0
    · rw [if_neg h1, if_pos h2] at hacc; cases hacc
    · rw [subscribe_eq p, subscribe_eq p', if_neg h1, if_neg h2,
        if_neg (fun h3 => h1 (lt_of_lt_of_le h3 h.clock)), if_neg h2]
      exact ⟨rfl, h.id, by simp only [h.cash], by simp only [h.cash, h.history], le_refl _, h.pos⟩

theorem withdraw_acc {p p' : Portfolio α} (h : PfLe p p') (t : Int) (a : α)
    (hacc : (p'.withdraw t a).2 = none) :
    (p.withdraw t a).2 = none ∧ PfLe (p.withdraw t a).1 (p'.withdraw t a).1 := by
  rw [withdraw_eq, h.cash] at hacc
  by_cases h1 : t < p'.clock
  · rw [if_pos h1] at hacc; cases hacc
  · by_cases h2 : a < 0 ∨ p.cash < a
    · rw [if_neg h1, if_pos h2] at hacc; cases hacc
    · rw [withdraw_eq p, withdraw_eq p', h.cash, if_neg h1, if_neg h2,
        if_neg (fun h3 => h1 (lt_of_lt_of_le h3 h.clock)), if_neg h2]
      exact ⟨rfl, h.id, rfl, by simp only [h.history], le_refl _, h.pos⟩

theorem subscribe_ref (p : Portfolio α) (t : Int) (a : α) {e : Err} (h : (p.subscribe t a).2 = some e) :
    PfLe p (p.subscribe t a).1 := by
  rw [subscribe_eq] at h ⊢
  by_cases h1 : t < p.clock
  · rw [if_pos h1]; exact PfLe.refl p
  · by_cases h2 : a < 0
    · rw [if_neg h1, if_pos h2]; exact ⟨rfl, rfl, rfl, not_lt.mp h1, List.forall₂_same.mpr fun a _ => PosLe.refl a⟩
    · rw [if_neg h1, if_neg h2] at h; cases h

theorem withdraw_ref (p : Portfolio α) (t : Int) (a : α) {e : Err} (h : (p.withdraw t a).2 = some e) :
    PfLe p (p.withdraw t a).1 := by
  rw [withdraw_eq] at h ⊢
  by_cases h1 : t < p.clock
  · rw [if_pos h1]; exact PfLe.refl p
  · by_cases h2 : a < 0 ∨ p.cash < a
    · rw [if_neg h1, if_pos h2]; exact ⟨rfl, rfl, rfl, not_lt.mp h1, List.forall₂_same.mpr fun a _ => PosLe.refl a⟩
    · rw [if_neg h1, if_neg h2] at h; cases h

theorem transactAsset_acc {p p' : Portfolio α} (h : PfLe p p') (t : Txn α)
    (hacc : (p'.transactAsset t).2 = none) :
    (p.transactAsset t).2 = none ∧ PfLe (p.transactAsset t).1 (p'.transactAsset t).1 := by
  rw [transactAsset_eq] at hacc
  by_cases h1 : t.time < p'.clock
  · rw [if_pos h1] at hacc; cases hacc
  · rw [if_neg h1] at hacc
    obtain ⟨k1, k2⟩ := transactPosition_acc h.pos t hacc
    rw [transactAsset_eq p, transactAsset_eq p', if_neg h1, if_neg (fun h3 => h1 (lt_of_lt_of_le h3 h.clock)), k1,
      show (p'.positions.transactPosition t).2 = none from hacc]
    exact ⟨rfl, h.id, by simp only [onOk, h.cash], by simp only [onOk, h.cash, h.history], le_refl _, k2⟩

theorem transactAsset_ref (p : Portfolio α) (t : Txn α) (hn : (p.positions.map (·.asset)).Nodup)
    {e : Err} (h : (p.transactAsset t).2 = some e) : PfLe p (p.transactAsset t).1 := by
  rw [transactAsset_eq] at h ⊢
  by_cases hc : t.time < p.clock
  · rw [if_pos hc]; exact PfLe.refl _
  · rw [if_neg hc] at h ⊢
    rw [show (p.positions.transactPosition t).2 = some e from h]
    exact ⟨rfl, rfl, rfl, not_lt.mp hc, transactPosition_ref p.positions t hn h⟩

theorem mark_acc {p p' : Portfolio α} (h : PfLe p p') (asset : String) (price : α) (t : Int)
    (hacc : (p'.mark asset price t).2 = none) :
    (p.mark asset price t).2 = none ∧ PfLe (p.mark asset price t).1 (p'.mark asset price t).1 := by
  obtain ⟨hn, hs⟩ := posFind_le h.pos asset
  rw [mark_eq] at hacc
  rw [mark_eq p, mark_eq p']
  cases hf' : Positions.find? p'.positions asset with
  | none => rw [hn hf']; exact ⟨rfl, h⟩
  | some pos' =>
    obtain ⟨pos, hf, hpp⟩ := hs pos' hf'
    rw [hf'] at hacc
    rw [hf]
    dsimp only at hacc ⊢
    by_cases h1 : price < 0 ∨ t < p'.clock
    · rw [if_pos h1] at hacc; cases hacc
    · rw [if_neg h1] at hacc ⊢
      rw [if_neg (fun h2 => h1 (h2.imp_right fun h3 => lt_of_lt_of_le h3 h.clock))]
      obtain ⟨k1, k2⟩ := updatePrice_acc hpp price t hacc
      exact ⟨k1, h.id, h.cash, h.history, h.clock, set_le h.pos k2⟩

theorem mark_ref (p : Portfolio α) (asset : String) (price : α) (t : Int)
    (hn : (p.positions.map (·.asset)).Nodup) {e : Err} (h : (p.mark asset price t).2 = some e) :
    PfLe p (p.mark asset price t).1 := by
  rw [mark_eq] at h ⊢
  cases hf : Positions.find? p.positions asset with
  | none => rw [hf] at h; cases h
  | some pos =>
    rw [hf] at h
    dsimp only at h ⊢
    by_cases h1 : price < 0 ∨ t < p.clock
    · rw [if_pos h1]; exact PfLe.refl p
    · rw [if_neg h1] at h ⊢
      exact ⟨rfl, rfl, rfl, le_refl _, set_adv hn hf (updatePrice_ref pos price t h)⟩

theorem posObs_le {ps ps' : Positions α} (h : List.Forall₂ PosLe ps ps') :
    ps'.map (fun q => (q.asset, q.net)) = ps.map (fun q => (q.asset, q.net)) := by
  induction h with
  | nil => rfl
  | cons hab _ ih => simp only [List.map_cons, ih, hab.asset, hab.net]

theorem obsList_le {l l' : List (PfEntry α)} (h : List.Forall₂ EnLe l l') :
    l'.map obsPf = l.map obsPf := by
  induction h with
  | nil => rfl
  | cons hab _ ih =>
    simp only [List.map_cons, ih]
    congr 1
    simp only [obsPf, hab.1, hab.2.id, hab.2.cash, hab.2.history, posObs_le hab.2.pos]

theorem Le.obs {σ σ' : Broker α} (h : Le σ σ') : obs σ' = obs σ := by
  unfold Qs.obs
  rw [h.1, obsList_le h.2.2]

theorem Le.ids {σ σ' : Broker α} (h : Le σ σ') :
    σ'.entries.map (·.pf.id) = σ.entries.map (·.pf.id) :=
  forall₂_ids h.2.2 (fun _ _ k => k.2.id)

/-- replacing the found portfolio by a later-clock version of itself -/
theorem setPf_adv {σ : Broker α} {pid : String} {e : PfEntry α} (hu : UniqueIds σ)
    (hf : σ.find? pid = some e) {p : Portfolio α} (hp : PfLe e.pf p) : Le σ (σ.setPf p) := by
  have hid : p.id = pid := hp.id.trans (find?_id hf)
  subst hid
  exact ⟨rfl, rfl, forall₂_upd (fun e : PfEntry α => e.pf.id) (fun x => { x with pf := p }) p.id hu hf
    (fun x _ _ => EnLe.refl x) ⟨rfl, hp⟩⟩

theorem PfCall.run_acc (c : PfCall α) {p p' : Portfolio α} (h : PfLe p p') (hacc : (c.run p').2 = none) :
    (c.run p).2 = none ∧ PfLe (c.run p).1 (c.run p').1 := by
  cases c with
  | subscribe t a => exact subscribe_acc h t a hacc
  | withdraw t a => exact withdraw_acc h t a hacc
  | transact t => exact transactAsset_acc h t hacc
  | mark s pr t => exact mark_acc h s pr t hacc

theorem call_acc {σ σ' : Broker α} (h : Le σ σ') (pid : String) (c : PfCall α) (m : α)
    (hacc : (σ'.call pid c m).2 = none) :
    (σ.call pid c m).2 = none ∧ Le (σ.call pid c m).1 (σ'.call pid c m).1 := by
  cases hf' : σ'.find? pid with
  | none => rw [call_none hf'] at hacc; cases hacc
  | some e' =>
    obtain ⟨e, hf, hee⟩ := (find_le h pid).2 e' hf'
    rw [call_some hf'] at hacc ⊢
    rw [call_some hf]
    cases hr' : (c.run e'.pf).2 with
    | some err => rw [hr'] at hacc; cases hacc
    | none =>
      obtain ⟨k1, k2⟩ := c.run_acc hee.2 hr'
      rw [k1]
      exact ⟨rfl, rfl, h.2.1, setPf_le h k2⟩

/-- the broker's own checks do not look at portfolio or position clocks -/
theorem pfOp_le {σ σ' : Broker α} (h : Le σ σ') (op : Op α) : pfOp σ' op = pfOp σ op := by
  have hfind : ∀ pid (f : α → Bool),
      (σ'.find? pid).any (fun e => f e.pf.cash) = (σ.find? pid).any (fun e => f e.pf.cash) := by
    intro pid f
    obtain ⟨hn, hs⟩ := find_le h pid
    cases hf' : σ'.find? pid with
    | none => rw [hn hf']
    | some e' => obtain ⟨e, hf, hee⟩ := hs e' hf'; simp [hf, hee.2.cash]
  cases op <;> simp only [pfOp, h.1, h.2.1]
  · rw [hfind _ (fun _ => _)]
  · rw [hfind _ (fun x => lt x _)]

theorem step_acc {σ σ' : Broker α} (h : Le σ σ') (op : Op α) (hnu : ∀ t q, op ≠ .update t q)
    (hacc : (step σ' op).2 = none) : (step σ op).2 = none ∧ Le (step σ op).1 (step σ' op).1 := by
  have ⟨hm, hc, hent⟩ := h
  rcases op.pfOp_or σ with ⟨g, pid, c, m, hop⟩ | ⟨a, rfl⟩ | ⟨a, rfl⟩ | ⟨pid, rfl⟩ | ⟨pid, o, rfl⟩ | ⟨t, q, rfl⟩ | ⟨t, rfl⟩
  · rw [step_pfOp ((pfOp_le h op).trans hop)] at hacc ⊢
    rw [step_pfOp hop]
    cases g <;> [exact call_acc h pid c m hacc; cases hacc]
  · simp only [step, Broker.subscribeAccount, hm] at hacc ⊢
    split_ifs at hacc ⊢
    exact ⟨rfl, rfl, hc, hent⟩
  · simp only [step, Broker.withdrawAccount, hm] at hacc ⊢
    split_ifs at hacc ⊢
    exact ⟨rfl, rfl, hc, hent⟩
  · simp only [step, Broker.createPortfolio, has_eq_of_ids h.ids, hc] at hacc ⊢
    split_ifs at hacc ⊢
    exact ⟨rfl, hm, rfl, List.rel_append hent (.cons (EnLe.refl _) .nil)⟩
  · cases hf' : σ'.find? pid with
    | none => rw [step, submitOrder_none hf'] at hacc; cases hacc
    | some e' =>
      obtain ⟨e, hf, hee⟩ := (find_le h pid).2 e' hf'
      simp only [step, submitOrder_some hf, submitOrder_some hf']
      exact ⟨trivial, hm, hc, setEntry_le h ⟨by rw [hee.1], hee.2⟩⟩
  · exact absurd rfl (hnu t q)
  · exact ⟨rfl, hm, rfl, hent⟩

theorem PfCall.run_ref (c : PfCall α) (p : Portfolio α) (hn : (p.positions.map (·.asset)).Nodup) {e : Err}
    (h : (c.run p).2 = some e) : PfLe p (c.run p).1 := by
  cases c with
  | subscribe t a => exact subscribe_ref p t a h
  | withdraw t a => exact withdraw_ref p t a h
  | transact t => exact transactAsset_ref p t hn h
  | mark s pr t => exact mark_ref p s pr t hn h

theorem call_ref {b : Broker α} (hu : UniqueIds b) (hp : PosUnique b) (pid : String) (c : PfCall α) (m : α)
    {e : Err} (h : (b.call pid c m).2 = some e) : Le b (b.call pid c m).1 := by
  cases hf : b.find? pid with
  | none => rw [call_none hf]; exact Le.refl b
  | some en =>
    rw [call_some hf] at h ⊢
    cases hr : (c.run en.pf).2 with
    | none => rw [hr] at h; cases h
    | some err => exact setPf_adv hu hf (c.run_ref _ (hp en (find?_mem hf)) hr)

theorem step_ref (σ : Broker α) (hu : UniqueIds σ) (hp : PosUnique σ) (op : Op α)
    (hnu : ∀ t q, op ≠ .update t q) {e : Err} (h : (step σ op).2 = some e) : Le σ (step σ op).1 := by
  cases hop : pfOp σ op with
  | none => rw [step_refused_of_pfOp_none σ op hop hnu h]; exact Le.refl σ
  | some x =>
    obtain ⟨g, pid, c, m⟩ := x
    rw [step_pfOp hop] at h ⊢
    cases g with
    | true => exact Le.refl σ
    | false => exact call_ref hu hp pid c m h

/-- the ops of a run that are accepted when their turn comes -/
def acceptedOps (σ : Broker α) : List (Op α) → List (Op α)
  | [] => []
  | o :: os =>
    match (step σ o).2 with
    | none => o :: acceptedOps (step σ o).1 os
    | some _ => acceptedOps (step σ o).1 os

def NoUpdate (ops : List (Op α)) : Prop := ∀ o ∈ ops, ∀ t q, o ≠ .update t q

theorem run_accepted_le (σf σo : Broker α) (hle : Le σf σo) (hu : UniqueIds σo) (hp : PosUnique σo)
    (ops : List (Op α)) (hadm : NoUpdate ops) :
    Le (run σf (acceptedOps σo ops)) (run σo ops) := by
  induction ops generalizing σf σo with
  | nil => exact hle
  | cons o os ih =>
    have hnu := hadm o List.mem_cons_self
    have hrest : NoUpdate os := fun o' ho' => hadm o' (List.mem_cons_of_mem _ ho')
    have hu' := step_uniqueIds σo o hu
    have hp' := step_posUnique σo o hu hp
    simp only [acceptedOps, run]
    cases hs : (step σo o).2 with
    | none =>
      simp only [run]
      obtain ⟨-, k2⟩ := step_acc hle o hnu hs
      exact ih _ _ k2 hu' hp' hrest
    | some e =>
      simp only
      have k := step_ref σo hu hp o hnu hs
      exact ih _ _ (hle.trans k) hu' hp' hrest

/-- every op of the list is refused when its turn comes (none is `update`) -/
def AllRefused (σ : Broker α) : List (Op α) → Prop
  | [] => True
  | o :: os => (∃ e, (step σ o).2 = some e) ∧ (∀ t q, o ≠ .update t q) ∧
      AllRefused (step σ o).1 os

theorem noUpdate_of_allRefused (σ : Broker α) (ops : List (Op α)) (h : AllRefused σ ops) :
    NoUpdate ops := by
  induction ops generalizing σ with
  | nil => intro o ho; cases ho
  | cons o os ih =>
    obtain ⟨-, hnu, hrest⟩ := h
    intro o' ho'
    rcases List.mem_cons.mp ho' with rfl | ho'
    · exact hnu
    · exact ih _ hrest o' ho'

theorem acceptedOps_allRefused (σ : Broker α) (ops : List (Op α)) (h : AllRefused σ ops) :
    acceptedOps σ ops = [] := by
  induction ops generalizing σ with
  | nil => rfl
  | cons o os ih =>
    obtain ⟨⟨e, he⟩, -, hrest⟩ := h
    simp only [acceptedOps, he]
    exact ih _ hrest

end
end Qs
