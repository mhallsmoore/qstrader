import QsProofs.Lemmas.FeeModel
import QsProofs.Lemmas.AssocList
import QsModel.Sizer
import Mathlib.Algebra.BigOperators.Group.List.Basic

/-!
# The order sizers (C10, C11; used by C09, C19)

Both sizers end in the same loop: the normalised weights, sorted by key, are priced one by one (`priceStep`), and a
missing price aborts.  The loop has a closed form (`mapM_priceStep`), hence so has each sizer: `dwSize_eq`, `lsSize_eq`
say when a call succeeds and that its result is then `sized price k g w`, the weights in key order, each scaled by the
normalisation `g` and turned into a quantity by `k`.  What a call guarantees is read off these two equations and the
one-asset lemmas for `dwQuantity`, `lsQuantity` (fees through `totalCost_eq`, `Lemmas/FeeModel`); for C18 the
normalisations do not depend on the order of the weights (`dwNormalise_perm`, `lsNormalise_perm`).
-/

set_option linter.unusedSectionVars false

namespace Qs
open NumOps Num

section Loop
variable {α : Type}

/-- one step of the loop both sizers end in: look the price up, fail on a NaN price -/
def priceStep (price : String → Option α) (k : α → α → Int) : String × α → Except Err (String × Int) :=
  fun (a, weight) =>
    match price a with
    | none => .error .value
    | some p => .ok (a, k weight p)

/-- the loop succeeds iff every key is priced, and is then a plain `map`; its only error is `ValueError` -/
theorem mapM_priceStep (price : String → Option α) (k : α → α → Int) (d : α) (l : List (String × α)) :
    l.mapM (priceStep price k) =
      if ∀ x ∈ l, (price x.1).isSome then .ok (l.map fun x => (x.1, k x.2 ((price x.1).getD d)))
      else .error .value := by
  induction l with
  | nil => rfl
  | cons x xs ih =>
    obtain ⟨a, v⟩ := x
    rw [List.mapM_cons, ih]
    simp only [List.forall_mem_cons]
    cases hp : price a with
    | none =>
      have : priceStep price k (a, v) = .error .value := by simp only [priceStep, hp]
      rw [this]
      exact (if_neg (fun hh => Bool.false_ne_true hh.1)).symm
    | some p =>
      have : priceStep price k (a, v) = .ok (a, k v p) := by simp only [priceStep, hp]
      rw [this]
      by_cases h : ∀ x ∈ xs, (price x.1).isSome
      · rw [if_pos h, if_pos ⟨rfl, h⟩, List.map_cons, hp]; rfl
      · rw [if_neg h, if_neg (fun hh => h hh.2)]; rfl

end Loop

/-! ## The target of a successful call -/

section Sized
variable {α : Type} [Zero α]

/-- what both sizers return when they succeed: the weights in ascending key order, each scaled by `g`
(the normalisation) and turned into a quantity by `k` at its price -/
def sized (price : String → Option α) (k : α → α → Int) (g : α → α) (w : Weights α) : Quantities :=
  (sortByKey w).map fun x => (x.1, k (g x.2) ((price x.1).getD 0))

variable {price : String → Option α} {k : α → α → Int} {g : α → α} {w : Weights α}

theorem sized_nil : sized price k g [] = [] := by
  rw [sized, sortByKey_of_pairwise_lt List.Pairwise.nil]; rfl

theorem sized_keys : (sized price k g w).map (·.1) = (sortByKey w).map (·.1) := by
  simp only [sized, List.map_map]; rfl

theorem length_sized : (sized price k g w).length = w.length := by
  simp only [sized, List.length_map, length_sortByKey]

theorem mem_sized {a : String} {qa : Int} :
    (a, qa) ∈ sized price k g w ↔ ∃ v, (a, v) ∈ w ∧ qa = k (g v) ((price a).getD 0) := by
  simp only [sized, List.mem_map, mem_sortByKey, Prod.mk.injEq, Prod.exists]
  constructor
  · rintro ⟨a', v, h, rfl, rfl⟩; exact ⟨v, h, rfl⟩
  · rintro ⟨v, h, rfl⟩; exact ⟨a, v, h, rfl, rfl⟩

theorem sized_val (hnd : (w.map (·.1)).Nodup) {a : String} {qa : Int} {wa pa : α}
    (hm : (a, qa) ∈ sized price k g w) (hwa : (a, wa) ∈ w) (hpa : price a = some pa) : qa = k (g wa) pa := by
  obtain ⟨v, hv, rfl⟩ := mem_sized.mp hm
  rw [eq_of_nodup_keys hnd hv hwa, hpa, Option.getD_some]

theorem zero_mem_sized (hg : g 0 = 0) (hk : ∀ p, k 0 p = 0) {a : String} (hm : (a, (0 : α)) ∈ w) :
    (a, (0 : Int)) ∈ sized price k g w :=
  mem_sized.mpr ⟨0, hm, by rw [hg, hk]⟩

theorem sized_eq_zero (hg : g 0 = 0) (hk : ∀ p, k 0 p = 0) (h0 : ∀ x ∈ w, x.2 = 0) :
    ∀ x ∈ sized price k g w, x.2 = 0 := by
  rintro ⟨a, qa⟩ hm
  obtain ⟨v, hv, rfl⟩ := mem_sized.mp hm
  rw [show v = 0 from h0 _ hv, hg, hk]

theorem sized_singleton (price : String → Option α) (k : α → α → Int) (g : α → α) (a : String) (v : α) :
    sized price k g [(a, v)] = [(a, k (g v) ((price a).getD 0))] := by
  rw [sized, sortByKey_of_pairwise_lt (List.pairwise_singleton _ _)]; rfl

theorem mapM_sorted_scaled (price : String → Option α) (k : α → α → Int) (g : α → α) (w : Weights α) :
    (sortByKey (w.map fun x => (x.1, g x.2))).mapM (priceStep price k) =
      if ∀ x ∈ w, (price x.1).isSome then .ok (sized price k g w) else .error .value := by
  rw [sortByKey_map (fun x : String × α => (x.1, g x.2)) (fun _ => rfl), mapM_priceStep price k 0,
    List.map_map]
  simp only [List.forall_mem_map, mem_sortByKey]
  rfl

end Sized

/-! ## Arithmetic that needs only the ordered field -/

section OrderedField
variable {α : Type} [Field α] [LinearOrder α] [IsStrictOrderedRing α]

-- `_root_.abs A` for `|A|` inside bars (they do not nest); plain `abs` is ambiguous with `NumOps.abs` here
theorem afterCost_abs_le (f A : α) (hf0 : 0 ≤ f) : |A - f * _root_.abs A| ≤ (1 + f) * |A| := by
  have h1 : |A - f * _root_.abs A| ≤ |A| + |f * _root_.abs A| := abs_sub _ _
  rwa [abs_mul, abs_abs, abs_of_nonneg hf0, ← one_add_mul] at h1

/-- a sum over the target is a sum over the weights (sorting is a permutation) -/
theorem sum_sized {price : String → Option α} {k : α → α → Int} {g : α → α} {w : Weights α}
    (f : String → Int → α) :
    ((sized price k g w).map fun x => f x.1 x.2).sum =
      (w.map fun x => f x.1 (k (g x.2) ((price x.1).getD 0))).sum := by
  simp only [sized, List.map_map]
  exact ((sortByKey_perm w).map _).sum_eq

theorem sum_map_mul_div (w : Weights α) (B S : α) :
    (w.map fun x => B * (x.2 / S)).sum = B * ((w.map (·.2)).sum / S) := by
  induction w with
  | nil => simp
  | cons x xs ih => simp only [List.map_cons, List.sum_cons, ih, add_div]; ring

theorem sum_map_abs_scaled (w : Weights α) (c E r : α) :
    (w.map fun x => c * |E * (x.2 * r)|).sum = c * (|E| * |r|) * (w.map fun x => |x.2|).sum := by
  induction w with
  | nil => simp
  | cons x xs ih => rw [List.map_cons, List.sum_cons, ih, List.map_cons, List.sum_cons, abs_mul, abs_mul]; ring

variable [NumOps α]

/-- `_normalise_weights` of either sizer, per weight: `f v` (divide by the sum `s`), or `v` itself when `s` is
`isclose` to zero -/
def normScale (s : α) (f : α → α) (v : α) : α := if |s| ≤ tiny then v else f v

theorem normScale_of_tiny_lt {s : α} (h : tiny < s) (f : α → α) (v : α) : normScale s f v = f v :=
  if_neg (not_le.mpr (lt_of_lt_of_le h (le_abs_self s)))

theorem normScale_of_le_tiny {s : α} (h : |s| ≤ tiny) (f : α → α) (v : α) : normScale s f v = v := if_pos h

theorem normScale_zero (s : α) {f : α → α} (hf : f 0 = 0) : normScale s f 0 = 0 := by
  unfold normScale; split
  · rfl
  · exact hf

/-- in the `isclose` branch the weights pass unchanged -/
theorem map_normScale_of_le_tiny {s : α} (h : |s| ≤ tiny) (f : α → α) (w : Weights α) :
    (w.map fun x => (x.1, normScale s f x.2)) = w :=
  (List.map_congr_left fun x _ => by rw [normScale_of_le_tiny h]).trans (List.map_id' w)

end OrderedField

section Lawful
variable {α : Type} [Field α] [LinearOrder α] [IsStrictOrderedRing α] [FloorRing α] [NumOps α] [LawfulNumOps α]

@[simp] theorem feeRate_zero : feeRate (FeeModel.zero : FeeModel α) = 0 := rfl
@[simp] theorem feeRate_percent (c τ : α) : feeRate (FeeModel.percent c τ) = c + τ := rfl
@[simp] theorem feeNonneg_zero : FeeNonneg (FeeModel.zero : FeeModel α) := trivial

theorem dwCheckBuffer_eq (b : α) : dwCheckBuffer b = if b < 0 ∨ 1 < b then .error .value else .ok b := by
  unfold dwCheckBuffer
  simp only [lt_eq, zero_eq, one_eq, Bool.or_eq_true, decide_eq_true_eq]

theorem lsCheckLeverage_eq (l : α) : lsCheckLeverage l = if l ≤ 0 then .error .value else .ok l := by
  unfold lsCheckLeverage
  simp only [le_eq, zero_eq, decide_eq_true_eq]

theorem dwQuantity_eq (fee : FeeModel α) (B w p : α) :
    dwQuantity fee B w p = ⌊(B * w - feeRate fee * |B * w|) / p⌋ := by
  simp only [dwQuantity, totalCost_eq, floorI_eq]

/-- the long-only quantity is the one whole number `z` with `z·p ≤ D < (z+1)·p`, `D` the after-cost dollars -/
theorem dwQuantity_eq_iff (fee : FeeModel α) (B w p : α) (hp : 0 < p) (z : Int) :
    dwQuantity fee B w p = z ↔
      (z : α) * p ≤ B * w - feeRate fee * |B * w| ∧ B * w - feeRate fee * |B * w| < ((z : α) + 1) * p := by
  rw [dwQuantity_eq, Int.floor_eq_iff, le_div_iff₀ hp, div_lt_iff₀ hp]

/-- the long-only quantity is the largest non-negative whole number whose cost plus the fee estimate fits
the allocation `B * w` -/
theorem dwQuantity_spec (fee : FeeModel α) (B w p : α) (hA : 0 ≤ B * w) (hp : 0 < p)
    (hf1 : feeRate fee ≤ 1) :
    0 ≤ dwQuantity fee B w p ∧
    (dwQuantity fee B w p : α) * p + feeRate fee * (B * w) ≤ B * w ∧
    B * w < ((dwQuantity fee B w p : α) + 1) * p + feeRate fee * (B * w) := by
  obtain ⟨h1, h2⟩ := (dwQuantity_eq_iff fee B w p hp _).mp rfl
  rw [abs_of_nonneg hA] at h1 h2
  refine ⟨?_, le_sub_iff_add_le.mp h1, sub_lt_iff_lt_add.mp h2⟩
  rw [dwQuantity_eq, abs_of_nonneg hA]
  exact Int.floor_nonneg.mpr (div_nonneg (sub_nonneg.mpr (mul_le_of_le_one_left hA hf1)) hp.le)

theorem dwQuantity_zero (fee : FeeModel α) (B p : α) : dwQuantity fee B 0 p = 0 := by
  rw [dwQuantity_eq]; simp

theorem lsQuantity_eq (fee : FeeModel α) (E w p : α) :
    lsQuantity fee E w p = truncI (((truncI (E * w - feeRate fee * |E * w|) : Int) : α) / p) := by
  simp only [lsQuantity, totalCost_eq, ofInt_eq]

theorem lsQuantity_eq_of {fee : FeeModel α} {E w p : α} {d z : Int}
    (h1 : truncI (E * w - feeRate fee * |E * w|) = d) (h2 : truncI ((d : α) / p) = z) :
    lsQuantity fee E w p = z := by
  rw [lsQuantity_eq, h1, h2]

theorem lsQuantity_zero (fee : FeeModel α) (E p : α) : lsQuantity fee E 0 p = 0 := by
  rw [lsQuantity_eq]; simp [truncI_eq]

theorem lsQuantity_afford (fee : FeeModel α) (E w p : α) (hp : 0 < p) :
    |(lsQuantity fee E w p : α)| * p ≤ |E * w - feeRate fee * _root_.abs (E * w)| ∧
    |E * w - feeRate fee * _root_.abs (E * w)| - 1 < (|(lsQuantity fee E w p : α)| + 1) * p := by
  rw [lsQuantity_eq]
  generalize E * w - feeRate fee * _root_.abs (E * w) = D
  obtain ⟨h1, h2⟩ := truncI_abs_le D
  obtain ⟨h3, h4⟩ := truncI_abs_le (((truncI D : Int) : α) / p)
  rw [abs_div, abs_of_pos hp] at h3 h4
  exact ⟨le_trans ((le_div_iff₀ hp).mp h3) h1,
    lt_trans h2 ((div_lt_iff₀ hp).mp (sub_lt_iff_lt_add.mp h4))⟩

theorem lsQuantity_sign_afterCost (fee : FeeModel α) (E w p : α) (hp : 0 < p) :
    (0 ≤ E * w - feeRate fee * |E * w| → 0 ≤ lsQuantity fee E w p) ∧
    (E * w - feeRate fee * |E * w| ≤ 0 → lsQuantity fee E w p ≤ 0) := by
  rw [lsQuantity_eq]
  generalize E * w - feeRate fee * _root_.abs (E * w) = D
  exact ⟨fun h => (truncI_sign _).1 (div_nonneg (Int.cast_nonneg ((truncI_sign D).1 h)) hp.le),
    fun h => (truncI_sign _).2
      (div_nonpos_of_nonpos_of_nonneg (Int.cast_nonpos.mpr ((truncI_sign D).2 h)) hp.le)⟩

theorem lsQuantity_sign (fee : FeeModel α) (E w p : α) (hp : 0 < p)
    (hf0 : 0 ≤ feeRate fee) (hf1 : feeRate fee ≤ 1) :
    (0 ≤ E * w → 0 ≤ lsQuantity fee E w p) ∧ (E * w ≤ 0 → lsQuantity fee E w p ≤ 0) := by
  obtain ⟨h1, h2⟩ := lsQuantity_sign_afterCost fee E w p hp
  refine ⟨fun h => h1 ?_, fun h => h2 ?_⟩
  · rw [abs_of_nonneg h]; exact sub_nonneg.mpr (mul_le_of_le_one_left h hf1)
  · rw [abs_of_nonpos h, mul_neg, sub_neg_eq_add]
    exact add_nonpos h (mul_nonpos_of_nonneg_of_nonpos hf0 h)

/-! ## The two sizers in closed form -/

theorem dwNormalise_eq (w : Weights α) :
    dwNormalise w = if ∀ x ∈ w, 0 ≤ x.2 then
      .ok (w.map fun x => (x.1, normScale (w.map (·.2)).sum (· / (w.map (·.2)).sum) x.2)) else .error .value := by
  unfold dwNormalise
  have hany : (w.any fun x => lt x.2 zero) = true ↔ ¬ ∀ x ∈ w, 0 ≤ x.2 := by
    simp only [List.any_eq_true, lt_eq, zero_eq, decide_eq_true_eq, not_forall, not_le, exists_prop]
  by_cases h : ∀ x ∈ w, 0 ≤ x.2
  · rw [if_neg (fun hh => hany.mp hh h), if_pos h]
    simp only [sumNeumaier_eq, isCloseZero_eq, decide_eq_true_eq]
    split
    · rename_i hc; rw [map_normScale_of_le_tiny hc]
    · rename_i hc; simp only [normScale, if_neg hc]
  · rw [if_pos (hany.mpr h), if_neg h]

theorem lsNormalise_eq (L : α) (w : Weights α) :
    lsNormalise L w = w.map fun x => (x.1, normScale (w.map fun x => |x.2|).sum
      (· * (L / (w.map fun x => |x.2|).sum)) x.2) := by
  simp only [lsNormalise, sumNaive_eq_sum, isCloseZero_eq, decide_eq_true_eq, abs_eq']
  split
  · rename_i hc; rw [map_normScale_of_le_tiny hc]
  · rename_i hc; simp only [normScale, if_neg hc]

theorem dwNormalise_perm {w w' : Weights α} (hp : w.Perm w') :
    (dwNormalise w = .error .value ∧ dwNormalise w' = .error .value) ∨
    ∃ nw nw', dwNormalise w = .ok nw ∧ dwNormalise w' = .ok nw' ∧ nw.Perm nw' ∧
      nw.map (·.1) = w.map (·.1) := by
  rw [dwNormalise_eq, dwNormalise_eq, (hp.map (·.2)).sum_eq]
  by_cases h : ∀ x ∈ w, 0 ≤ x.2
  · rw [if_pos h, if_pos fun x hx => h x (hp.mem_iff.mpr hx)]
    exact .inr ⟨_, _, rfl, rfl, hp.map _, by rw [List.map_map]; rfl⟩
  · rw [if_neg h, if_neg fun h' => h fun x hx => h' x (hp.mem_iff.mp hx)]
    exact .inl ⟨rfl, rfl⟩

theorem lsNormalise_perm (L : α) {w w' : Weights α} (hp : w.Perm w') :
    (lsNormalise L w).Perm (lsNormalise L w') ∧ (lsNormalise L w).map (·.1) = w.map (·.1) := by
  rw [lsNormalise_eq, lsNormalise_eq, (hp.map fun x : String × α => |x.2|).sum_eq]
  exact ⟨hp.map _, by rw [List.map_map]; rfl⟩

/-- the long-only sizer: it succeeds iff no weight is negative and every key is priced (an empty dictionary
included: `sized … [] = []`) -/
theorem dwSize_eq (fee : FeeModel α) (E b : α) (price : String → Option α) (w : Weights α) :
    dwSize fee E b price w =
      if (∀ x ∈ w, 0 ≤ x.2) ∧ ∀ x ∈ w, (price x.1).isSome then
        .ok (sized price (dwQuantity fee (E * (1 - b))) (normScale (w.map (·.2)).sum (· / (w.map (·.2)).sum)) w)
      else .error .value := by
  cases w with
  | nil => rw [if_pos (by simp), sized_nil]; rfl
  | cons x xs =>
    show (dwNormalise (x :: xs) >>= fun nw =>
      (sortByKey nw).mapM (priceStep price (dwQuantity fee (E * (one - b))))) = _
    rw [dwNormalise_eq, one_eq]
    by_cases h : ∀ y ∈ x :: xs, 0 ≤ y.2
    · rw [if_pos h]
      show (sortByKey _).mapM _ = _
      rw [mapM_sorted_scaled]
      exact (if_congr (and_iff_right h) rfl rfl).symm
    · rw [if_neg h, if_neg (fun hh => h hh.1)]; rfl

/-- the long/short sizer: it succeeds iff every key is priced -/
theorem lsSize_eq (fee : FeeModel α) (E L : α) (price : String → Option α) (w : Weights α) :
    lsSize fee E L price w =
      if ∀ x ∈ w, (price x.1).isSome then .ok (sized price (lsQuantity fee E)
        (normScale (w.map fun x => |x.2|).sum (· * (L / (w.map fun x => |x.2|).sum))) w)
      else .error .value := by
  cases w with
  | nil => rw [if_pos (by simp), sized_nil]; rfl
  | cons x xs =>
    show (sortByKey (lsNormalise L (x :: xs))).mapM (priceStep price (lsQuantity fee E)) = _
    rw [lsNormalise_eq, mapM_sorted_scaled]

theorem dwSize_ok_iff {fee : FeeModel α} {E b : α} {price : String → Option α} {w : Weights α} {q : Quantities} :
    dwSize fee E b price w = .ok q ↔ ((∀ x ∈ w, 0 ≤ x.2) ∧ ∀ x ∈ w, (price x.1).isSome) ∧
      q = sized price (dwQuantity fee (E * (1 - b))) (normScale (w.map (·.2)).sum (· / (w.map (·.2)).sum)) w := by
  rw [dwSize_eq]; exact ite_ok_eq_ok_iff

theorem lsSize_ok_iff {fee : FeeModel α} {E L : α} {price : String → Option α} {w : Weights α} {q : Quantities} :
    lsSize fee E L price w = .ok q ↔ (∀ x ∈ w, (price x.1).isSome) ∧
      q = sized price (lsQuantity fee E)
        (normScale (w.map fun x => |x.2|).sum (· * (L / (w.map fun x => |x.2|).sum))) w := by
  rw [lsSize_eq]; exact ite_ok_eq_ok_iff

/-! ### what a successful call guarantees -/

/-- The floor clause of a successful call.  Success already means that no weight is negative, and `0 ≤ E` is
enough; `C10_floor` (Props/C10) is this for `0 < E`. -/
theorem dwSize_floor (fee : FeeModel α) (E b : α) (price : String → Option α) (w : Weights α) (q : Quantities)
    (hnd : (w.map (·.1)).Nodup)
    (hp : ∀ a p, price a = some p → 0 < p) (hE : 0 ≤ E) (hb1 : b ≤ 1)
    (hf1 : feeRate fee ≤ 1) (hS : tiny < (w.map (·.2)).sum)
    (hq : dwSize fee E b price w = .ok q) :
    ∀ a qa, (a, qa) ∈ q → ∀ wa pa, (a, wa) ∈ w → price a = some pa →
      let A := E * (1 - b) * (wa / (w.map (·.2)).sum)
      0 ≤ qa ∧ (qa : α) * pa + feeRate fee * A ≤ A ∧ A < ((qa : α) + 1) * pa + feeRate fee * A := by
  intro a qa hm wa pa hwa hpa
  obtain ⟨⟨hw, -⟩, rfl⟩ := dwSize_ok_iff.mp hq
  rw [sized_val hnd hm hwa hpa, normScale_of_tiny_lt hS]
  exact dwQuantity_spec fee (E * (1 - b)) _ pa
    (mul_nonneg (mul_nonneg hE (sub_nonneg.mpr hb1))
      (div_nonneg (hw _ hwa) (tiny_nonneg.trans hS.le))) (hp _ pa hpa) hf1

theorem dwSize_budget (fee : FeeModel α) (E b : α) (price : String → Option α) (w : Weights α) (q : Quantities)
    (hp : ∀ a p, price a = some p → 0 < p) (hE : 0 ≤ E) (hb1 : b ≤ 1)
    (hfee : FeeNonneg fee) (hf1 : feeRate fee ≤ 1) (hS : tiny < (w.map (·.2)).sum)
    (hq : dwSize fee E b price w = .ok q) :
    (q.map fun x => (x.2 : α) * (price x.1).getD 0).sum ≤ (1 - b) * E := by
  obtain ⟨⟨hw, hpr⟩, rfl⟩ := dwSize_ok_iff.mp hq
  have hSpos : 0 < (w.map (·.2)).sum := lt_of_le_of_lt tiny_nonneg hS
  -- each asset costs at most its share `B * (wᵢ / S)` of the buffered equity `B`; the shares add up to `B`
  calc _ = _ := sum_sized (fun a n => (n : α) * (price a).getD 0)
    _ ≤ (w.map fun x => E * (1 - b) * (x.2 / (w.map (·.2)).sum)).sum := List.sum_le_sum fun x hx => ?_
    _ = (1 - b) * E := by rw [sum_map_mul_div, div_self hSpos.ne', mul_one, mul_comm]
  obtain ⟨pa, hpa⟩ := Option.isSome_iff_exists.mp (hpr x hx)
  rw [hpa, Option.getD_some, normScale_of_tiny_lt hS]
  have hA : 0 ≤ E * (1 - b) * (x.2 / (w.map (·.2)).sum) :=
    mul_nonneg (mul_nonneg hE (sub_nonneg.mpr hb1)) (div_nonneg (hw _ hx) hSpos.le)
  exact le_trans (le_add_of_nonneg_right (mul_nonneg (feeRate_nonneg hfee) hA))
    (dwQuantity_spec fee (E * (1 - b)) _ pa hA (hp _ pa hpa) hf1).2.1

/-- The gross bound for equity and leverage of any sign; `C11_gross` (Props/C11) is this for `0 < E`, `0 < L`. -/
theorem lsSize_gross (fee : FeeModel α) (E L : α) (price : String → Option α) (w : Weights α) (q : Quantities)
    (hp : ∀ a p, price a = some p → 0 < p)
    (hfee : FeeNonneg fee) (hG : tiny < (w.map fun x => |x.2|).sum)
    (hq : lsSize fee E L price w = .ok q) :
    (q.map fun x => |(x.2 : α)| * (price x.1).getD 0).sum ≤ |L| * |E| * (1 + feeRate fee) := by
  obtain ⟨hpr, rfl⟩ := lsSize_ok_iff.mp hq
  have hGpos : 0 < (w.map fun x => |x.2|).sum := lt_of_le_of_lt tiny_nonneg hG
  -- each asset's gross value is at most `|D| ≤ (1 + f) |A|`; the `|A|` add up to `|L| |E|`
  calc _ = _ := sum_sized (fun a n => |(n : α)| * (price a).getD 0)
    _ ≤ (w.map fun x => (1 + feeRate fee) * |E * (x.2 * (L / (w.map fun x => |x.2|).sum))|).sum :=
      List.sum_le_sum fun x hx => ?_
    _ = |L| * |E| * (1 + feeRate fee) := by
      rw [sum_map_abs_scaled, abs_div, abs_of_pos hGpos, mul_assoc, mul_assoc,
        div_mul_cancel₀ _ hGpos.ne', mul_comm, mul_comm |E|]
  obtain ⟨pa, hpa⟩ := Option.isSome_iff_exists.mp (hpr x hx)
  rw [hpa, Option.getD_some, normScale_of_tiny_lt hG]
  exact le_trans (lsQuantity_afford fee E _ pa (hp _ pa hpa)).1 (afterCost_abs_le _ _ (feeRate_nonneg hfee))

end Lawful

end Qs
