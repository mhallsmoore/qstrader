import QsProofs.Lemmas.Session
import QsProofs.Lemmas.Signals
import QsProofs.Lemmas.RefinementRelSession

/-!
# Component facts carried along `Session.step` and `Session.runEvents`

What C16, C19 and C09 prove about one component is here an invariant of the loop, pushed through a step by
`step_inv`/`step_ok_iff` and through a run by the run rules: `signals` changes only by one `SignalsCollection.update`
per market close; `Occ P Q b` (stored positions and queued orders have assets in `P`, logged fills are in `Q`) is kept
by every broker operation, and with `P := entered the dynamic universe by the latest rebalance` it is the C19 invariant
`Good`; a broker that represents a reference state (`Ref.BR`) still does after a rebalance, an update, a step, a run
(the forward readings of `executeOrders_rel`, `update_rel`, `rebalanceAt_rel`, for any alpha model).
-/

set_option linter.unusedSectionVars false

namespace Qs.Lift
open Qs.Sess

section
variable {α : Type} [Add α] [Sub α] [Mul α] [Div α] [Neg α] [NumOps α]

def isClose (ev : SimEvent) : Bool := decide (ev.kind = .marketClose)

/-- the universe and the mid prices a signals update at event `ev` sees -/
def dayOfEvent (cfg : SessionCfg α) (px : Px α) (ev : SimEvent) : List String × (String → α) :=
  (cfg.uni.assets ev.time, fun a => (px ev.time a).getD cfg.nan)

/-- the `(universe, mid prices)` of the market-close events of an event list, in order -/
def closeDays (cfg : SessionCfg α) (px : Px α) (events : List SimEvent) : List (List String × (String → α)) :=
  (events.filter isClose).map (dayOfEvent cfg px)

theorem closeDays_cons (cfg : SessionCfg α) (px : Px α) (ev : SimEvent) (rest : List SimEvent) :
    closeDays cfg px (ev :: rest) =
      if ev.kind = .marketClose then dayOfEvent cfg px ev :: closeDays cfg px rest else closeDays cfg px rest := by
  unfold closeDays isClose
  by_cases h : ev.kind = .marketClose
  · simp [h]
  · simp [h]

theorem mem_closeDays {cfg : SessionCfg α} {px : Px α} {events : List SimEvent} {d : List String × (String → α)} :
    d ∈ closeDays cfg px events ↔ ∃ ev ∈ events, ev.kind = .marketClose ∧ d = dayOfEvent cfg px ev := by
  unfold closeDays
  rw [List.mem_map]
  constructor
  · rintro ⟨ev, hev, rfl⟩
    rw [List.mem_filter] at hev
    exact ⟨ev, hev.1, of_decide_eq_true hev.2, rfl⟩
  · rintro ⟨ev, hev, hk, rfl⟩
    exact ⟨ev, List.mem_filter.2 ⟨hev, decide_eq_true hk⟩, rfl⟩

theorem closeDays_length (cfg : SessionCfg α) (px : Px α) (events : List SimEvent) :
    (closeDays cfg px events).length = (events.filter isClose).length := by
  simp [closeDays]

theorem sigStage_signals (cfg : SessionCfg α) (px : Px α) (ev : SimEvent) (s : Session α) :
    (sigStage cfg px ev s).1.signals =
      match s.signals with
      | none => none
      | some c =>
        if ev.kind = .marketClose then some (c.update (dayOfEvent cfg px ev).1 (dayOfEvent cfg px ev).2).1
        else some c := by
  unfold sigStage dayOfEvent
  cases hs : s.signals with
  | none => simp [hs]
  | some c =>
    simp only
    split
    · rfl
    · simp [hs]

theorem sigStage_err (cfg : SessionCfg α) (px : Px α) (ev : SimEvent) (s : Session α) :
    (sigStage cfg px ev s).2 =
      match s.signals with
      | none => none
      | some c =>
        if ev.kind = .marketClose then (c.update (dayOfEvent cfg px ev).1 (dayOfEvent cfg px ev).2).2
        else none := by
  unfold sigStage dayOfEvent
  cases hs : s.signals with
  | none => rfl
  | some c =>
    simp only
    split
    · rfl
    · rfl

/-- the rebalance, the order execution and the equity stage never touch `signals` -/
theorem step_ok_signals {cfg : SessionCfg α} {alpha : Alpha α} {px : Px α} {sched : List Int} {s s' : Session α}
    {ev : SimEvent} (h : s.step cfg alpha px sched ev = (s', none)) :
    (sigStage cfg px ev s).2 = none ∧ s'.signals = (sigStage cfg px ev s).1.signals := by
  obtain ⟨b, s2, s3, _, h2, h3, h4⟩ := step_ok_iff.1 h
  have e3 := (rebStage_frame cfg alpha px sched ev.time s2).2.2.2
  have e4 := (eqStage_frame cfg ev s3).2.2.2
  rw [h3] at e3; rw [h4] at e4
  have f2 := congrArg (fun r => r.1.signals) h2
  have g2 := congrArg Prod.snd h2
  simp only [sigStage_signals, sigStage_err] at f2 g2 ⊢
  exact ⟨g2, e4.trans (e3.trans f2.symm)⟩

theorem step_signals_close (cfg : SessionCfg α) (alpha : Alpha α) (px : Px α) (sched : List Int) (s s' : Session α)
    (ev : SimEvent) (c : SignalsCollection α) (hc : s.signals = some c) (hk : ev.kind = .marketClose)
    (h : s.step cfg alpha px sched ev = (s', none)) :
    ∃ c', c.update (cfg.uni.assets ev.time) (fun a => (px ev.time a).getD cfg.nan) = (c', none) ∧
      s'.signals = some c' := by
  obtain ⟨he, hs⟩ := step_ok_signals h
  simp only [sigStage_err, sigStage_signals, hc, hk, if_true, dayOfEvent] at he hs
  exact ⟨_, Prod.ext rfl he, hs⟩

/-- whether the step raises or not -/
theorem step_signals_other (cfg : SessionCfg α) (alpha : Alpha α) (px : Px α) (sched : List Int) (s : Session α)
    (ev : SimEvent) (hk : ev.kind ≠ .marketClose ∨ s.signals = none) :
    (s.step cfg alpha px sched ev).1.signals = s.signals :=
  step_inv (I := fun s' => s'.signals = s.signals) cfg alpha px sched s ev rfl
    (fun s1 h => by
      rw [sigStage_signals, h]
      rcases hk with hk | hk
      · cases s.signals <;> simp [hk]
      · rw [hk])
    (fun s1 h => (rebStage_frame cfg alpha px sched ev.time s1).2.2.2.trans h)
    (fun s1 h => (eqStage_frame cfg ev s1).2.2.2.trans h)

/-- one `SignalsCollection.update` per market-close event, in event order, none of which raised -/
theorem runEvents_signals (cfg : SessionCfg α) (alpha : Alpha α) (px : Px α) (sched : List Int) :
    ∀ (events : List SimEvent) (s s' : Session α) (c : SignalsCollection α), s.signals = some c →
      Session.runEvents cfg alpha px sched s events = (s', none) →
      ∃ c', Sig.updateAll c (closeDays cfg px events) = (c', none) ∧ s'.signals = some c' := by
  intro events
  induction events with
  | nil => intro s s' c hc h; cases runEvents_nil_ok.1 h; exact ⟨c, rfl, hc⟩
  | cons ev rest ih =>
    intro s s' c hc h
    obtain ⟨s1, hst, hrest⟩ := runEvents_cons_ok.1 h
    obtain ⟨he, hs1⟩ := step_ok_signals hst
    simp only [sigStage_err, sigStage_signals, hc] at he hs1
    rw [closeDays_cons]
    by_cases hk : ev.kind = .marketClose
    · simp only [hk, if_true] at he hs1 ⊢
      obtain ⟨c', hall, hc'⟩ := ih s1 s' _ hs1 hrest
      refine ⟨c', ?_, hc'⟩
      rw [Sig.updateAll, show c.update _ _ = (_, none) from Prod.ext rfl he]
      exact hall
    · simp only [hk, if_false] at hs1 ⊢
      exact ih s1 s' c hs1 hrest

/-- every stored position and every queued order (of every portfolio) has an asset satisfying `P`; every logged fill
satisfies `Q` -/
structure Occ (P : String → Prop) (Q : Txn α → Prop) (b : Broker α) : Prop where
  pos : ∀ e ∈ b.entries, ∀ p ∈ e.pf.positions, P p.asset
  queue : ∀ e ∈ b.entries, ∀ o ∈ e.queue, P o.asset
  log : ∀ f ∈ b.fillLog, Q f.2

theorem Occ.mono {P P' : String → Prop} {Q Q' : Txn α → Prop} {b : Broker α} (h : Occ P Q b)
    (hP : ∀ a, P a → P' a) (hQ : ∀ t, Q t → Q' t) : Occ P' Q' b :=
  ⟨fun e he p hp => hP _ (h.pos e he p hp), fun e he o ho => hP _ (h.queue e he o ho),
   fun f hf => hQ _ (h.log f hf)⟩

/-- the broker's observation of the session's holdings sees stored positions only -/
theorem Occ.held {P : String → Prop} {Q : Txn α → Prop} {b : Broker α} (h : Occ P Q b) :
    ∀ a ∈ (heldOf b).map (·.1), P a := by
  intro a ha
  unfold heldOf at ha
  split at ha
  · simp at ha
  · rename_i e hf
    simp only [List.map_map, List.mem_map, Function.comp_def] at ha
    obtain ⟨p, hp, rfl⟩ := ha
    exact h.pos e (find?_mem hf) p hp

theorem Occ.pending {P : String → Prop} {Q : Txn α → Prop} {b : Broker α} (h : Occ P Q b) :
    ∀ a ∈ (pendingOf b).map (·.1), P a := by
  intro a ha
  unfold pendingOf at ha
  split at ha
  · cases ha
  · rename_i e hf
    simp only [List.map_map, List.mem_map, Function.comp_def] at ha
    obtain ⟨o, ho, rfl⟩ := ha
    exact h.queue e (find?_mem hf) o ho

/-- storing a portfolio whose positions satisfy `P` -/
theorem setPf_occ {P : String → Prop} {Q : Txn α → Prop} {b : Broker α} (h : Occ P Q b) (p : Portfolio α)
    (hp : ∀ x ∈ p.positions, P x.asset) : Occ P Q (b.setPf p) := by
  refine ⟨?_, ?_, h.log⟩
  · intro e' he' x hx
    rcases mem_upd (fun e : PfEntry α => e.pf.id) _ _ he' with h1 | ⟨e, _, _, rfl⟩
    · exact h.pos e' h1 x hx
    · exact hp x hx
  · intro e' he' o ho
    rcases mem_upd (fun e : PfEntry α => e.pf.id) _ _ he' with h1 | ⟨e, he, _, rfl⟩
    · exact h.queue e' h1 o ho
    · exact h.queue e he o ho

/-- a call on one portfolio that keeps its assets in `P` and logs fills in `Q` keeps the invariant, whether it
returns or raises -/
theorem call_occ {P : String → Prop} {Q : Txn α → Prop} {b : Broker α} (h : Occ P Q b) (pid : String)
    (c : PfCall α) (m : α)
    (hc : ∀ p : Portfolio α, (∀ y ∈ p.positions, P y.asset) → ∀ x ∈ (c.run p).1.positions, P x.asset)
    (hQ : ∀ f ∈ c.fills pid, Q f.2) : Occ P Q (b.call pid c m).1 := by
  cases hf : b.find? pid with
  | none => rw [call_none hf]; exact h
  | some e =>
    have h1 := setPf_occ h (c.run e.pf).1 (hc e.pf (h.pos e (find?_mem hf)))
    rw [call_some hf]
    cases (c.run e.pf).2 with
    | some err => exact h1
    | none =>
      exact ⟨h1.pos, h1.queue, fun f hf' => (List.mem_append.mp hf').elim (h.log f) (hQ f)⟩

theorem applyMark_occ {P : String → Prop} {Q : Txn α → Prop} {b : Broker α} (h : Occ P Q b)
    (pid a : String) (price : α) (t : Int) : Occ P Q (b.applyMark pid a price t).1 := by
  rw [applyMark_eq_call]
  refine call_occ h pid _ _ (fun p hp x hx => ?_) (fun _ hf => nomatch hf)
  obtain ⟨y, hy, hxy⟩ := mark_pos p a price t x hx
  exact hxy ▸ hp y hy

theorem applyTxn_occ {P : String → Prop} {Q : Txn α → Prop} {b : Broker α} (h : Occ P Q b)
    (pid : String) (tx : Txn α) (hP : P tx.asset) (hQ : Q tx) : Occ P Q (b.applyTxn pid tx).1 := by
  rw [applyTxn_eq_call]
  refine call_occ h pid _ _ (fun p hp x hx => ?_) (fun f hf => ?_)
  · rcases transactAsset_pos p tx x hx with ⟨y, hy, hxy⟩ | hxa
    exacts [hxy ▸ hp y hy, hxa ▸ hP]
  · rw [List.mem_singleton.mp hf]; exact hQ

theorem executeOrder_occ {P : String → Prop} {Q : Txn α → Prop} {b : Broker α} (h : Occ P Q b)
    (q : Quotes α) (pid : String) (o : Order) (hP : P o.asset)
    (hQ : ∀ tx, tx.asset = o.asset → tx.time = b.clock → Q tx) : Occ P Q (b.executeOrder q pid o).1 := by
  unfold Broker.executeOrder
  split
  · exact h
  · rename_i tx hm
    obtain ⟨_, _, _, rfl⟩ := makeTxn_ok hm
    exact applyTxn_occ h pid _ hP (hQ _ rfl rfl)

theorem clearQueues_occ {P : String → Prop} {Q : Txn α → Prop} {b : Broker α} (h : Occ P Q b) :
    Occ P Q b.clearQueues := by
  refine ⟨?_, ?_, h.log⟩
  · intro e' he' x hx
    obtain ⟨e, he, rfl⟩ := mem_clearQueues.1 he'
    exact h.pos e he x hx
  · intro e' he' o ho
    obtain ⟨e, _, rfl⟩ := mem_clearQueues.1 he'
    cases ho

/-- `broker.update(dt)` creates no asset: marks keep every stored asset, fills only move queued orders into the
positions and the fill log (each fill stamped `t`) — whether the update returns or raises. -/
theorem update_occ {P : String → Prop} {Q : Txn α → Prop} {b : Broker α} (h : Occ P Q b) (t : Int) (q : Quotes α)
    (hQ : ∀ tx, P tx.asset → tx.time = t → Q tx) : Occ P Q (b.update t q).1 :=
  update_rule (I := fun b' => Occ P Q b' ∧ b'.clock = t) (J := Occ P Q)
    (K := fun b1 b' => Occ P Q b' ∧ b'.clock = t ∧ ∀ x ∈ b1.drained, P x.2.asset) b t q
    -- a mark keeps every stored asset, and the clock
    (hmark := fun b' pid a pr hb => ⟨applyMark_occ hb.1 .., (applyMark_clock b' pid a pr t).trans hb.2⟩)
    (hstop := fun _ hb => hb.1)
    -- inside hours the queues are cleared; the drained orders were queued, so their assets are in `P`
    (hclear := fun b1 hb _ => ⟨clearQueues_occ hb.1, hb.2, fun x hx => by
      obtain ⟨e, he, _, ho⟩ := mem_drained hx; exact hb.1.queue e he x.2 ho⟩)
    -- one execution: the fill is of a drained order, stamped with the clock `t`
    (hexec := fun b1 b' x hx hb => ⟨executeOrder_occ hb.1 q x.1 x.2 (hb.2.2 x hx)
        (fun tx ha ht => hQ tx (ha ▸ hb.2.2 x hx) (ht.trans hb.2.1)),
      (executeOrder_other b' q x.1 x.2).1.trans hb.2.1, hb.2.2⟩)
    (hdone := fun _ _ hb => hb.1)
    (h0 := ⟨⟨h.pos, h.queue, h.log⟩, rfl⟩)

theorem submitOrder_occ {P : String → Prop} {Q : Txn α → Prop} {b : Broker α} (h : Occ P Q b) (pid : String) (o : Order)
    (hP : P o.asset) : Occ P Q (b.submitOrder pid o).1 := by
  cases hf : b.find? pid with
  | none => rw [submitOrder_none hf]; exact h
  | some e =>
    rw [submitOrder_some hf]
    refine ⟨fun e' he' x hx => ?_, fun e' he' o' ho' => ?_, h.log⟩
    · rcases mem_upd (fun e : PfEntry α => e.pf.id) (fun _ => _) _ he' with h1 | ⟨_, _, _, rfl⟩
      · exact h.pos e' h1 x hx
      · exact h.pos e (find?_mem hf) x hx
    · rcases mem_upd (fun e : PfEntry α => e.pf.id) (fun _ => _) _ he' with h1 | ⟨_, _, _, rfl⟩
      · exact h.queue e' h1 o' ho'
      · rcases List.mem_append.mp ho' with h1 | h1
        · exact h.queue e (find?_mem hf) o' h1
        · rw [List.mem_singleton.1 h1]; exact hP

theorem executeOrders_occ {P : String → Prop} {Q : Txn α → Prop} (px : Px α) (t : Int)
    (hQ : ∀ tx, P tx.asset → tx.time = t → Q tx) (l : List (String × Int)) (b : Broker α) (n : Nat)
    (h : Occ P Q b) (hl : ∀ x ∈ l, P x.1) : Occ P Q (executeOrders px t b n l).1 :=
  executeOrders_inv (I := Occ P Q) px t l b n (fun _ _ x hx h => submitOrder_occ h _ _ (hl x hx))
    (fun _ h => update_occ h t _ hQ) h

/-- "no position, no pending order, no fill" as the `Occ` invariant with the empty predicates -/
theorem occ_of_empty (b : Broker α)
    (hpos : ∀ e ∈ b.entries, e.pf.positions = [] ∧ e.queue = []) (hlog : b.fillLog = []) :
    Occ (fun _ => False) (fun _ => False) b :=
  ⟨fun e he p hp => by rw [(hpos e he).1] at hp; simp at hp,
   fun e he o ho => by rw [(hpos e he).2] at ho; simp at ho,
   fun f hf => by rw [hlog] at hf; simp at hf⟩

/-- the asset has entered the dynamic universe by the time of the latest allocation record (= latest rebalance) -/
def EnteredLast (dates : List (String × Option Int)) (allocs : List (Int × List (String × α))) (a : String) : Prop :=
  ∃ r, allocs.getLast? = some r ∧ Entered dates r.1 a

/-- the fill's asset had entered the universe by a rebalance (allocation record) made at or before the fill time -/
def FillOk (dates : List (String × Option Int)) (allocs : List (Int × List (String × α))) (tx : Txn α) : Prop :=
  ∃ r ∈ allocs, r.1 ≤ tx.time ∧ Entered dates r.1 tx.asset

/-- the C19 session invariant.  `lo` bounds the times of the allocation records made so far (which are in time
order): a fill at a time `≥ lo` is then dated after every record, which is what `update_good` needs to say that its
asset had entered "by a rebalance made at or before the fill time". -/
structure Good (dates : List (String × Option Int)) (sig : α) (lo : Int) (s : Session α) : Prop where
  occ : Occ (EnteredLast dates s.allocations) (FillOk dates s.allocations) s.broker
  recs : ∀ r ∈ s.allocations, r.1 ≤ lo ∧ (∀ k ∈ r.2.map (·.1), Entered dates r.1 k) ∧
    (∀ a, Entered dates r.1 a → (a, sig) ∈ r.2)
  sorted : (s.allocations.map (·.1)).Pairwise (· ≤ ·)

theorem Good.congr {dates : List (String × Option Int)} {sig : α} {lo : Int} {s s' : Session α}
    (h : Good dates sig lo s) (hb : s'.broker = s.broker) (ha : s'.allocations = s.allocations) :
    Good dates sig lo s' := by
  refine ⟨?_, ?_, ?_⟩
  · rw [hb, ha]; exact h.occ
  · rw [ha]; exact h.recs
  · rw [ha]; exact h.sorted

theorem Good.mono {dates : List (String × Option Int)} {sig : α} {lo lo' : Int} {s : Session α}
    (h : Good dates sig lo s) (hl : lo ≤ lo') : Good dates sig lo' s :=
  ⟨h.occ, fun r hr => ⟨(h.recs r hr).1.trans hl, (h.recs r hr).2⟩, h.sorted⟩

theorem good_fresh (dates : List (String × Option Int)) (sig : α) (lo : Int) (s : Session α)
    (ho : Occ (fun _ => False) (fun _ => False) s.broker) (ha : s.allocations = []) : Good dates sig lo s :=
  ⟨ho.mono (fun _ h => h.elim) (fun _ h => h.elim), by rw [ha]; exact fun _ hr => (nomatch hr),
    by rw [ha]; exact List.Pairwise.nil⟩

theorem update_good {dates : List (String × Option Int)} {sig : α} {lo t : Int} {s : Session α}
    (h : Good dates sig lo s) (ht : lo ≤ t) (q : Quotes α) :
    Good dates sig lo { s with broker := (s.broker.update t q).1 } := by
  refine ⟨?_, h.recs, h.sorted⟩
  apply update_occ h.occ
  rintro tx ⟨r, hr, he⟩ htime
  have hm := List.mem_of_getLast? hr
  exact ⟨r, hm, by rw [htime]; exact (h.recs r hm).1.trans ht, he⟩

theorem enteredLast_snoc (dates : List (String × Option Int)) (allocs : List (Int × List (String × α))) (t : Int)
    (fw : List (String × α)) (a : String) :
    EnteredLast dates (allocs ++ [(t, fw)]) a ↔ Entered dates t a := by
  unfold EnteredLast
  rw [List.getLast?_append_of_ne_nil _ (List.cons_ne_nil _ _), List.getLast?_singleton]
  exact ⟨fun ⟨r, hr, he⟩ => by cases hr; exact he, fun he => ⟨_, rfl, he⟩⟩

theorem Good.entered {dates : List (String × Option Int)} {sig : α} {lo t : Int} {s : Session α}
    (h : Good dates sig lo s) (ht : lo ≤ t) {a : String} (ha : EnteredLast dates s.allocations a) :
    Entered dates t a := by
  obtain ⟨r, hr, he⟩ := ha
  exact Entered.mono ((h.recs r (List.mem_of_getLast? hr)).1.trans ht) he

/-- a record `(t, fw)` made at a time `t ≥ lo` whose keys have entered by `t` and which holds every entered asset
keeps the invariant, the broker being as it was -/
theorem Good.snoc {dates : List (String × Option Int)} {sig : α} {lo t : Int} {s : Session α}
    (h : Good dates sig lo s) (ht : lo ≤ t) (fw : List (String × α))
    (hk : ∀ k ∈ fw.map (·.1), Entered dates t k) (hfrom : ∀ a, Entered dates t a → (a, sig) ∈ fw) :
    Good dates sig t { s with allocations := s.allocations ++ [(t, fw)] } := by
  refine ⟨h.occ.mono (fun a ha => (enteredLast_snoc ..).mpr (h.entered ht ha))
    (fun tx ⟨r, hr, h1, h2⟩ => ⟨r, List.mem_append_left _ hr, h1, h2⟩), fun r hr => ?_, ?_⟩
  · rcases List.mem_append.mp hr with h1 | h1
    · exact ⟨(h.recs r h1).1.trans ht, (h.recs r h1).2⟩
    · rw [List.mem_singleton.1 h1]
      exact ⟨le_refl _, hk, hfrom⟩
  · show ((s.allocations ++ [(t, fw)]).map (·.1)).Pairwise (· ≤ ·)
    rw [List.map_append, List.pairwise_append]
    refine ⟨h.sorted, List.pairwise_singleton _ _, fun x hx y hy => ?_⟩
    obtain ⟨r, hr, rfl⟩ := List.mem_map.1 hx
    rw [List.mem_singleton.1 hy]
    exact (h.recs r hr).1.trans ht

end

/-- the quantity an association list of holdings gives an asset (`0` when absent) -/
def qtyOf (l : List (String × Int)) (a : String) : Int := (l.lookup a).getD 0

section
variable {α : Type} [Field α] [LinearOrder α] [IsStrictOrderedRing α] [FloorRing α] [NumOps α] [LawfulNumOps α]

/-! ## The C19 invariant through a rebalance, a step, a run: dynamic universe, universe-driven alpha model -/

/-- the weight vector such a rebalance records: its keys are held assets or universe members, and it gives every
universe member the signal -/
theorem recorded_single {dates : List (String × Option Int)} {sig : α} {t : Int} {s : Session α}
    (cfg : SessionCfg α) (huni : cfg.uni = .dynamic dates)
    (hheld : ∀ a ∈ (heldOf s.broker).map (·.1), Entered dates t a) :
    (∀ k ∈ (recordedWeights cfg (singleAlpha sig) t s).map (·.1), Entered dates t k) ∧
    (∀ a, Entered dates t a → (a, sig) ∈ recordedWeights cfg (singleAlpha sig) t s) := by
  have hU : cfg.uni.assets t = dynamicAssets dates t := by rw [huni]; rfl
  have hkeys : (singleSignal (dynamicAssets dates t) sig).map (·.1) = dynamicAssets dates t := by
    unfold singleSignal; rw [List.map_map]; exact List.map_id' _
  unfold recordedWeights singleAlpha fixedWeight
  rw [hU]
  refine ⟨fun k hk => ?_, fun a ha => ?_⟩
  · rcases mem_fullWeightVector_keys.mp hk with h1 | h1 | h1
    · exact hheld k h1
    · exact mem_dynamicAssets.mp h1
    · exact mem_dynamicAssets.mp (hkeys ▸ h1)
  · have hU' : a ∈ dynamicAssets dates t := mem_dynamicAssets.mpr ha
    rw [mem_fullWeightVector]
    refine Or.inl ⟨mem_fullAssetList.mpr (Or.inr hU'), ?_⟩
    obtain ⟨v, hv⟩ := lookup_isSome_of_mem_keys (hkeys.symm ▸ hU' : a ∈ (singleSignal _ sig).map (·.1))
    rw [hv]
    obtain ⟨_, _, hx⟩ := List.mem_map.mp (mem_of_lookup_eq_some hv)
    exact congrArg Prod.snd hx

/-- at a rebalance at `t ≥ lo` the new record, the submitted orders and everything they turn into satisfy the
invariant at `t` — whether sizing or execution raises or not -/
theorem rebalanceAt_good {dates : List (String × Option Int)} {sig : α} {lo t : Int} {s : Session α}
    (cfg : SessionCfg α) (huni : cfg.uni = .dynamic dates) (px : Px α)
    (h : Good dates sig lo s) (ht : lo ≤ t) :
    Good dates sig t (rebalanceAt cfg (singleAlpha sig) px t s).1 := by
  have hheld : ∀ a ∈ (heldOf s.broker).map (·.1), Entered dates t a := fun a ha => h.entered ht (h.occ.held a ha)
  obtain ⟨hk, hfrom⟩ := recorded_single (sig := sig) cfg huni hheld
  have h1 := h.snoc ht _ hk hfrom
  rw [rebalanceAt_eq]
  cases htq : sizerOf cfg (equityOf s.broker) (px t) (recordedWeights cfg (singleAlpha sig) t s) with
  | error e => exact h1
  | ok tq =>
    refine ⟨?_, h1.recs, h1.sorted⟩
    show Occ _ _ (executeOrders px t s.broker s.nextId (rebalanceOrders tq (heldOf s.broker))).1
    refine executeOrders_occ px t (fun tx hp htime => ?_) _ _ _ h1.occ (fun x hx => ?_)
    · exact ⟨_, List.mem_append_right _ (List.mem_singleton_self _), by rw [htime], (enteredLast_snoc ..).mp hp⟩
    · -- an ordered asset is held, in the universe, or a key of the alpha model's weights: entered by `t`
      refine (enteredLast_snoc ..).mpr ?_
      rcases sizerOf_orders_keys cfg _ px t _ _ tq htq x.1 (List.mem_map_of_mem hx) with h2 | h2 | h2
      · exact hheld _ h2
      · exact hk _ (mem_fullWeightVector_keys.mpr (Or.inr (Or.inl h2)))
      · exact hk _ (mem_fullWeightVector_keys.mpr (Or.inr (Or.inr h2)))

theorem step_good {dates : List (String × Option Int)} {sig : α} {lo : Int} {s : Session α}
    (cfg : SessionCfg α) (huni : cfg.uni = .dynamic dates) (px : Px α) (sched : List Int) (ev : SimEvent)
    (h : Good dates sig lo s) (ht : lo ≤ ev.time) :
    Good dates sig ev.time (s.step cfg (singleAlpha sig) px sched ev).1 :=
  step_inv cfg _ px sched s ev ((update_good h ht _).mono ht)
    (fun s h => h.congr (sigStage_frame cfg px ev s).1 (sigStage_frame cfg px ev s).2.1)
    (fun s h => by
      cases hr : isReb cfg sched ev.time
      · rw [rebStage_neg hr]; exact h
      · rw [rebStage_pos hr]; exact rebalanceAt_good cfg huni px h (le_refl _))
    (fun s h => h.congr (eqStage_frame cfg ev s).1 (eqStage_frame cfg ev s).2.1)

theorem good_of_fresh_run {dates : List (String × Option Int)} (sig : α)
    (cfg : SessionCfg α) (huni : cfg.uni = .dynamic dates) (px : Px α) (sched : List Int) (s : Session α)
    (hpos : ∀ e ∈ s.broker.entries, e.pf.positions = [] ∧ e.queue = []) (hlog : s.broker.fillLog = [])
    (halloc : s.allocations = [])
    (events : List SimEvent) (hsorted : (events.map (·.time)).Pairwise (· ≤ ·)) :
    ∃ lo', Good dates sig lo' (Session.runEvents cfg (singleAlpha sig) px sched s events).1 := by
  cases events with
  | nil => exact ⟨0, good_fresh dates sig 0 s (occ_of_empty s.broker hpos hlog) halloc⟩
  | cons ev rest =>
    -- nothing is recorded yet, so any bound will do: the first event time, the least of all
    refine runEvents_inv_sorted (I := Good dates sig) cfg (singleAlpha sig) px sched s (ev :: rest) ev.time
      (fun s lo ev _ ht h => step_good cfg huni px sched ev h ht) hsorted (fun e he => ?_)
      (good_fresh dates sig ev.time s (occ_of_empty s.broker hpos hlog) halloc)
    rcases List.mem_cons.1 he with rfl | he
    · exact Int.le_refl _
    · exact (List.pairwise_cons.1 hsorted).1 _ (List.mem_map_of_mem he)

/-! ## A represented broker (`Ref.BR`) under a rebalance, an update, a step, a run: any alpha model -/

open Qs.Ref

/-- A rebalance of a represented session, any alpha model, returning normally: the sizer returned a target, and
the broker represents what `refExecute` makes of the orders `target − holdings` (outside exchange hours they join the
queue, inside them — nothing pending — they fill at once). -/
theorem rebalanceAt_rep (cfg : SessionCfg α) (alpha : Alpha α) (px : Px α)
    (hpos : ∀ t a p, px t a = some p → 0 < p) (t : Int) (s s1 : Session α) (st : RefState α)
    (hbr : BR cfg.fee s.broker st t) (hm : Marked px t s.broker) (hp : isOpen t = true → st.pending = [])
    (hret : rebalanceAt cfg alpha px t s = (s1, none)) :
    ∃ tq r, sizerOf cfg (equityOf s.broker) (px t) (recordedWeights cfg alpha t s) = .ok tq ∧
      heldOf s.broker = st.hold ∧
      refExecute cfg.fee px t st (rebalanceOrders tq st.hold) = some r ∧
      BR cfg.fee s1.broker r t ∧ Marked px t s1.broker := by
  have hheld := heldOf_sim cfg.fee s.broker st t hbr
  rw [rebalanceAt_eq] at hret
  cases htgt : sizerOf cfg (equityOf s.broker) (px t) (recordedWeights cfg alpha t s) with
  | error e => rw [htgt] at hret; cases hret
  | ok tq =>
    rw [htgt] at hret
    simp only [hheld, Prod.mk.injEq] at hret
    obtain ⟨r, hr, hbrm⟩ := (executeOrders_rel cfg.fee px hpos t (rebalanceOrders tq st.hold) s.broker s.nextId st
      ⟨hbr, hm.markedQ⟩ hp (fun o ho => rebalanceOrders_ne_zero ho)).fwd hret.2
    rw [← hret.1]
    refine ⟨tq, r, rfl, hheld, hr, hbrm.1, hbrm.marked ?_⟩
    -- the new book is quoted: old holdings because they were marked, filled orders because they filled
    have hq := quoted_of_marked cfg.fee px s.broker st t hbr hm
    cases ho : isOpen t
    · rw [refExecute_closed _ _ _ _ ho] at hr; cases hr; exact hq
    · rw [refExecute_open _ _ _ _ ho] at hr
      exact quoted_of_keys (refFillAll_frame hr).2.2.2 hq (refFillAll_quoted hr)

/-- the holdings of a represented broker are a finite map: distinct keys, no zero quantity -/
theorem held_wf (fee : FeeModel α) (b : Broker α) (st : RefState α) (t : Int) (hbr : BR fee b st t) :
    ((heldOf b).map (·.1)).Nodup ∧ (∀ x ∈ heldOf b, x.2 ≠ 0) := by
  have hh := heldOf_sim fee b st t hbr
  obtain ⟨⟨e, _, her⟩, _, _, _⟩ := hbr
  exact ⟨by rw [hh, ← keys_of_view her.hold]; exact her.wf.nodup, by rw [hh]; exact her.nz⟩

theorem queuesEmpty_of_rep (fee : FeeModel α) (b : Broker α) (st : RefState α) (t : Int) (hbr : BR fee b st t)
    (hp : st.pending = []) : QueuesEmpty b := by
  obtain ⟨⟨e, he, her⟩, _, _, _⟩ := hbr
  intro e' he'
  rw [he] at he'
  simp only [List.mem_singleton] at he'
  subst he'
  have := her.queue
  rw [hp] at this
  exact List.map_eq_nil_iff.mp this

/-- the fills of the next open: a represented broker whose queue holds exactly the orders `os` (non-zero
quantities), updated at an open instant `t' ≥ t` where every held asset is quoted, without error: the holdings become
`applyOrders hold os` pointwise and the queue is empty. -/
theorem update_reach (fee : FeeModel α) (px : Px α) (hpos : ∀ t a p, px t a = some p → 0 < p)
    (b b2 : Broker α) (st : RefState α) (t t' : Int) (hbr : BR fee b st t) (ht : t ≤ t')
    (ho : isOpen t' = true) (hq : ∀ x ∈ st.hold, (px t' x.1).isSome)
    (hret : b.update t' (quotesAt px t') = (b2, none)) :
    ∃ st', BR fee b2 st' t' ∧ Marked px t' b2 ∧ st'.pending = [] ∧
      (∀ a, qtyOf (heldOf b2) a = applyOrders st.hold st.pending a) := by
  obtain ⟨st', hf, hbrm⟩ := (update_rel fee px hpos b st t t' hbr ht).fwd (by rw [hret])
  rw [hret] at hbrm
  rw [refUpdate_open _ _ _ ho] at hf
  obtain ⟨h1, -, -, h4⟩ := refFillAll_frame hf
  refine ⟨st', hbrm.1, hbrm.marked (quoted_of_keys h4 hq (refFillAll_quoted hf)), h1, fun a => ?_⟩
  rw [qtyOf, heldOf_sim fee b2 st' t' hbrm.1, refFillAll_qty fee px t' _ _ st' hf a]
  unfold applyOrders
  rw [orderedQty_perm (sellsFirst_perm _ st.pending) a]

/-- one event of a represented session, any alpha model: a step that returns normally leaves a represented
broker, marked wherever there is a price; after an event inside exchange hours nothing is pending; every asset of the
book stays in `A`. -/
theorem step_rep (cfg : SessionCfg α) (alpha : Alpha α) (px : Px α)
    (hpos : ∀ t a p, px t a = some p → 0 < p) (sched : List Int) (A : String → Prop)
    (hA : ∀ t a, a ∈ cfg.uni.assets t → A a)
    (hAw : ∀ t sg u, ∀ a ∈ (alpha t sg u).map (·.1), A a)
    (s s' : Session α) (st : RefState α) (t0 : Int) (ev : SimEvent)
    (hbr : BR cfg.fee s.broker st t0) (has : Assets A st) (ht : t0 ≤ ev.time)
    (hq : ∀ a, A a → (px ev.time a).isSome)
    (hret : s.step cfg alpha px sched ev = (s', none)) :
    ∃ st', BRM cfg.fee px ev.time s'.broker st' ∧ Assets A st' ∧
      (isOpen ev.time = true → st'.pending = []) := by
  have hupd := fun b (hu : s.broker.update ev.time (quotesAt px ev.time) = (b, none)) =>
    (update_rel cfg.fee px hpos s.broker st t0 ev.time hbr ht).fwd (by rw [hu])
  cases hreb : isReb cfg sched ev.time
  · obtain ⟨hu, -⟩ := step_ok_noReb hreb hret
    obtain ⟨st1, h1, hbrm1⟩ := hupd _ hu
    rw [hu] at hbrm1
    exact ⟨st1, hbrm1, refUpdate_assets px A h1 has, (refUpdate_frame h1).2.2.1⟩
  · obtain ⟨b, s2, s3, hu, -, hb2, -, hr, hb3, -⟩ := step_ok_reb hreb hret
    obtain ⟨st1, h1, hbrm1⟩ := hupd b hu
    rw [hu, ← hb2] at hbrm1
    have has1 := refUpdate_assets px A h1 has
    obtain ⟨-, -, hp1, -, -⟩ := refUpdate_frame h1
    obtain ⟨st', h', hbrm'⟩ := (rebalanceAt_rel cfg alpha px hpos ev.time s2 st1 hbrm1 hp1
      (fun x hx => hq _ (has1.1 _ (List.mem_map_of_mem hx)))).fwd (by rw [hr])
    rw [hr, ← hb3] at hbrm'
    exact ⟨st', hbrm', refRebalance_assets cfg _ px A hA (hAw _ _ _) h' has1,
      fun ho => (refRebalance_pending h' ho).trans (hp1 ho)⟩

/-- a whole run of a represented session, any alpha model, up to an instant `tn` not before its events: the broker is
represented at a clock `≤ tn` (so the next event, at `tn`, can update it); if nothing was pending at the start and the
last event, if any, was inside exchange hours, nothing is pending at the end -/
theorem run_rep (cfg : SessionCfg α) (alpha : Alpha α) (px : Px α)
    (hpos : ∀ t a p, px t a = some p → 0 < p) (sched : List Int) (A : String → Prop)
    (hA : ∀ t a, a ∈ cfg.uni.assets t → A a)
    (hAw : ∀ t sg u, ∀ a ∈ (alpha t sg u).map (·.1), A a) (tn : Int) :
    ∀ (events : List SimEvent) (s s' : Session α) (st : RefState α) (t0 : Int),
      BR cfg.fee s.broker st t0 → Assets A st → t0 ≤ tn →
      (isOpen t0 = true → st.pending = []) → (events = [] → st.pending = []) →
      (events.map (·.time)).Pairwise (· ≤ ·) → (∀ ev ∈ events, t0 ≤ ev.time ∧ ev.time ≤ tn) →
      (∀ ev ∈ events, ∀ a, A a → (px ev.time a).isSome) →
      (∀ ev, events.getLast? = some ev → isOpen ev.time = true) →
      Session.runEvents cfg alpha px sched s events = (s', none) →
      ∃ st' t', t' ≤ tn ∧ BR cfg.fee s'.broker st' t' ∧ Assets A st' ∧ st'.pending = [] := by
  intro events
  induction events with
  | nil =>
    intro s s' st t0 hbr has h0 _ hnil _ _ _ _ h
    cases runEvents_nil_ok.1 h
    exact ⟨st, t0, h0, hbr, has, hnil rfl⟩
  | cons ev rest ih =>
    intro s s' st t0 hbr has _ _ _ hs hb hq hlast h
    obtain ⟨s1, hst, h⟩ := runEvents_cons_ok.1 h
    obtain ⟨st1, hbrm1, has1, hp1⟩ := step_rep cfg alpha px hpos sched A hA hAw s s1 st t0 ev hbr has
      (hb ev (List.mem_cons_self ..)).1 (hq ev (List.mem_cons_self ..)) hst
    rw [List.map_cons, List.pairwise_cons] at hs
    exact ih s1 s' st1 ev.time hbrm1.1 has1 (hb ev (List.mem_cons_self ..)).2 hp1
      (fun hr => hp1 (hlast ev (by rw [hr]; rfl))) hs.2
      (fun e he => ⟨hs.1 _ (List.mem_map_of_mem he), (hb e (List.mem_cons_of_mem _ he)).2⟩)
      (fun e he => hq e (List.mem_cons_of_mem _ he))
      (fun e he => hlast e (by rw [List.getLast?_cons, he]; rfl)) h

/-- the constructed session is represented (with or without a signals collection): no holdings, nothing pending,
the initial cash -/
theorem init_rep (cfg : SessionCfg α) (s0 : Session α) (events : List SimEvent) (sched : List Int)
    (h : Session.init cfg = .ok (s0, events, sched)) :
    BR cfg.fee s0.broker { cash := cfg.initialCash } cfg.start := by
  obtain ⟨b, _, hb, _, _, _, rfl⟩ := init_iff.1 h
  exact initBroker_rep hb

end

end Qs.Lift
