import QsProofs.Inst
import QsProofs.Lemmas.BrokerBasic
import QsProofs.Lemmas.Calendar
import QsProofs.Lemmas.Position
import QsProofs.Lemmas.Holdings
import Mathlib.Data.List.Forall2
import Mathlib.Data.List.Perm.Basic
import Mathlib.Data.List.Nodup

/-!
# Order queues, `update`, `executeOrder`

After the exchange hours, the queue side of the broker is read through `qview` (ids and queues), `view` (plus cash
and history) and `filled` (the fill log as orders). Marks, fills and transfers are calls (`Broker.call`) and leave
`qview` alone; `update` is the marking phase followed, in exchange hours, by the batch. What a run does to queues and
log is the relation `Book`, which holds of every step and composes: one induction over runs. The last part: under
`ClocksOK`/`QuotesPos` an `update` raises nothing.
-/

set_option linter.unusedSectionVars false

namespace Qs

/-! ## Exchange hours -/

/- 14:30:00 = 52200 s, 21:00:00 = 75600 s; day 0 is a Thursday, hence `+ 3`. `todOf`/`weekday` are unfolded (the
linear form `omega` takes), `dayOf` is not: callers substitute a day number for it. -/
theorem isOpen_iff (t : Int) :
    isOpen t = true ↔ (dayOf t + 3) % 7 ≤ 4 ∧ 52200 ≤ t % 86400 ∧ t % 86400 < 75600 := by
  simp only [isOpen, weekday, todOf, OPEN, CLOSE, Bool.and_eq_true, and_assoc]
  constructor
  · rintro ⟨a, b, c⟩; exact ⟨of_decide_eq_true a, of_decide_eq_true b, of_decide_eq_true c⟩
  · rintro ⟨a, b, c⟩; exact ⟨decide_eq_true a, decide_eq_true b, decide_eq_true c⟩

theorem isOpen_close (d : Int) : isOpen (d * 86400 + CLOSE) = false := by
  cases h : isOpen (d * 86400 + CLOSE) with
  | false => rfl
  | true =>
    rw [isOpen_iff] at h
    unfold CLOSE at h
    omega

theorem isOpen_open (d : Int) (hd : isBDay d = true) : isOpen (d * 86400 + OPEN) = true := by
  rw [isOpen_iff]
  rw [Cal.isBDay_iff, weekday] at hd
  unfold OPEN dayOf
  omega

section
variable {α : Type} [Add α] [Sub α] [Mul α] [Div α] [Neg α] [NumOps α]

/-! ## Observations of a broker state -/

/-- an invariant of `createPortfolio`; the `Nodup` hypothesis of the keyed-list lemmas of `BrokerBasic` as it stands -/
def WF (b : Broker α) : Prop := (b.entries.map (fun e => e.pf.id)).Nodup

theorem WF_iff_uniqueIds (b : Broker α) : WF b ↔ UniqueIds b := Iff.rfl

/-- the order a transaction was built from -/
def Txn.order (t : Txn α) : Order := ⟨t.orderId, t.asset, t.qty⟩

/-- the queue of portfolio `pid` (`[]` if there is no such portfolio) -/
def Broker.queueOf (b : Broker α) (pid : String) : List Order :=
  match b.find? pid with
  | some e => e.queue
  | none => []

def Broker.cashOf (b : Broker α) (pid : String) : Option α := (b.find? pid).map (fun e => e.pf.cash)

/-- ids, queues, cash, history in portfolio order: everything a fill-free step must leave alone -/
def Broker.view (b : Broker α) : List (String × List Order × α × List (Event α)) :=
  b.entries.map (fun e => (e.pf.id, e.queue, e.pf.cash, e.pf.history))

def Broker.filled (b : Broker α) : List (String × Order) := b.fillLog.map (fun f => (f.1, f.2.order))

theorem filled_of_log {b b' : Broker α} {fl : List (String × Txn α)} (h : b'.fillLog = b.fillLog ++ fl) :
    b'.filled = b.filled ++ fl.map (fun f => (f.1, f.2.order)) := by
  rw [Broker.filled, h, List.map_append]; rfl

theorem ids_of_qview (b : Broker α) : b.entries.map (fun e => e.pf.id) = b.qview.map (·.1) := by
  simp [Broker.qview, List.map_map, Function.comp_def]

theorem qview_of_view (b : Broker α) : b.qview = b.view.map (fun v => (v.1, v.2.1)) := by
  simp [Broker.qview, Broker.view, List.map_map, Function.comp_def]

theorem drained_of_qview (b : Broker α) :
    b.drained = b.qview.flatMap (fun v => v.2.map (fun o => (v.1, o))) := by
  simp [Broker.drained, Broker.qview, List.flatMap_map]

theorem queueOf_of_qview (b : Broker α) (pid : String) :
    b.queueOf pid = match b.qview.find? (fun v => v.1 == pid) with | some v => v.2 | none => [] := by
  have : (b.find? pid).map (fun e => (e.pf.id, e.queue)) = b.qview.find? (fun v => v.1 == pid) := by
    simp only [Broker.find?, Broker.qview, List.find?_map, Function.comp_def]
  rw [← this]
  unfold Broker.queueOf
  cases b.find? pid <;> rfl

theorem wf_of_qview {b b' : Broker α} (h : b'.qview = b.qview) (hwf : WF b) : WF b' :=
  uniqueIds_of_ids ((ids_of_qview b').trans ((congrArg _ h).trans (ids_of_qview b).symm)) hwf

theorem drained_congr {b b' : Broker α} (h : b'.qview = b.qview) : b'.drained = b.drained := by
  rw [drained_of_qview, h, ← drained_of_qview]

theorem queueOf_congr {b b' : Broker α} (h : b'.qview = b.qview) (pid : String) : b'.queueOf pid = b.queueOf pid := by
  rw [queueOf_of_qview, queueOf_of_qview, h]

theorem find?_map_field {γ δ : Type} (b : Broker α) (g : PfEntry α → γ) (f : String × γ → δ) (pid : String) :
    ((b.entries.map fun e => (e.pf.id, g e)).find? (fun v => v.1 == pid)).map f
      = (b.find? pid).map fun e => f (e.pf.id, g e) := by
  simp only [Broker.find?, List.find?_map, Function.comp_def, Option.map_map]

theorem cashOf_congr {b b' : Broker α} (h : b'.view = b.view) (pid : String) : b'.cashOf pid = b.cashOf pid := by
  have e : ∀ c : Broker α, c.cashOf pid = (c.view.find? (fun v => v.1 == pid)).map (fun v => v.2.2.1) := fun c =>
    (find?_map_field c (fun e => (e.queue, e.pf.cash, e.pf.history)) (fun v => v.2.2.1) pid).symm
  rw [e, e, h]

theorem has_of_ids {b b' : Broker α} (h : b'.qview.map (·.1) = b.qview.map (·.1)) (pid : String) :
    b'.has pid = b.has pid :=
  has_eq_of_ids ((ids_of_qview b').trans (h.trans (ids_of_qview b).symm)) pid

theorem mem_drained {b : Broker α} {x : String × Order} (h : x ∈ b.drained) :
    ∃ e ∈ b.entries, x.1 = e.pf.id ∧ x.2 ∈ e.queue := by
  simp only [Broker.drained, List.mem_flatMap, List.mem_map] at h
  obtain ⟨e, he, o, ho, rfl⟩ := h
  exact ⟨e, he, rfl, ho⟩

/-! ## The marking phase of `update` -/

/-- needs `WF`: `setPf` rewrites every entry of the id -/
theorem applyMark_view (b : Broker α) (hwf : WF b) (pid a : String) (price : α) (t : Int) :
    (b.applyMark pid a price t).1.view = b.view := by
  rw [applyMark_eq_call]
  refine call_map b hwf pid _ _ _ fun e => ?_
  obtain ⟨hid, hcash, hhist, _⟩ := mark_frame e.pf a price t
  exact ⟨hid, by rw [show (PfCall.mark a price t).run e.pf = e.pf.mark a price t from rfl, hid, hcash, hhist]⟩

theorem marked_spec (b : Broker α) (t : Int) (q : Quotes α) :
    (b.marked t q).1.qview = b.qview ∧ (b.marked t q).1.clock = t ∧ (b.marked t q).1.fee = b.fee ∧
    (b.marked t q).1.master = b.master ∧ (b.marked t q).1.fillLog = b.fillLog ∧
    (WF b → (b.marked t q).1.view = b.view) := by
  unfold Broker.marked
  apply runUntilErr_inv _ (fun b' => b'.qview = b.qview ∧ b'.clock = t ∧ b'.fee = b.fee ∧
    b'.master = b.master ∧ b'.fillLog = b.fillLog ∧ (WF b → b'.view = b.view))
  · intro b' x ⟨h1, h2, h3, h4, h5, h6⟩
    obtain ⟨g1, g2, g3, g4, g5⟩ := call_frame b' x.1 (.mark x.2.1 x.2.2 t) b'.master
    rw [← applyMark_eq_call] at g1 g2 g3 g4 g5
    exact ⟨g1.trans h1, g2.trans h2, g3.trans h3, (g4.trans (onOk_self _ _)).trans h4, (g5 rfl).trans h5,
      fun hwf => (applyMark_view b' (wf_of_qview h1 hwf) ..).trans (h6 hwf)⟩
  · exact ⟨rfl, rfl, rfl, rfl, rfl, fun _ => rfl⟩

/-- the batch is that of `b`: marks keep the queues (the other two ways through `update`: `update_eq_marked`) -/
theorem update_open (b : Broker α) (t : Int) (q : Quotes α) (ho : isOpen t = true) (hm : (b.marked t q).2 = none) :
    b.update t q =
      Broker.runUntilErr (fun b (x : String × Order) => b.executeOrder q x.1 x.2)
        (b.marked t q).1.clearQueues
        (sellsFirst (fun (x : String × Order) => x.2.isSell) b.drained) := by
  rw [update_eq, ← drained_congr (marked_spec b t q).1]
  revert hm
  rcases b.marked t q with ⟨b1, _ | e⟩
  · exact fun _ => by simp only [ho, if_true]
  · exact fun h => by cases h

theorem update_closed (b : Broker α) (t : Int) (q : Quotes α) (h : isOpen t = false) :
    b.update t q = b.marked t q := update_eq_marked b t q (.inl h)

theorem update_marks_err (b : Broker α) (t : Int) (q : Quotes α) (h : (b.marked t q).2 ≠ none) :
    b.update t q = b.marked t q := update_eq_marked b t q (.inr h)

theorem applyTxn_frame (b : Broker α) (pid : String) (t : Txn α) :
    (b.applyTxn pid t).1.qview = b.qview ∧ (b.applyTxn pid t).1.clock = b.clock ∧
    (b.applyTxn pid t).1.fee = b.fee ∧ (b.applyTxn pid t).1.master = b.master := by
  rw [applyTxn_eq_call]
  obtain ⟨h1, h2, h3, h4, _⟩ := call_frame b pid (.transact t) b.master
  exact ⟨h1, h2, h3, h4.trans (onOk_self _ _)⟩

theorem applyTxn_log (b : Broker α) (pid : String) (t : Txn α) :
    ((b.applyTxn pid t).2 = none → (b.applyTxn pid t).1.fillLog = b.fillLog ++ [(pid, t)]) ∧
    ((b.applyTxn pid t).2 ≠ none → (b.applyTxn pid t).1.fillLog = b.fillLog) := by
  rw [applyTxn_eq_call]
  have h := call_fillLog b pid (.transact t) b.master
  generalize b.call pid (.transact t) b.master = r at h ⊢
  rcases r with ⟨b', _ | e⟩
  · exact ⟨fun _ => h, fun h' => absurd rfl h'⟩
  · exact ⟨fun h' => (by cases h'), fun _ => h.trans (List.append_nil _)⟩

theorem executeOrder_qview (b : Broker α) (q : Quotes α) (pid : String) (o : Order) :
    (b.executeOrder q pid o).1.qview = b.qview := by
  unfold Broker.executeOrder
  split
  · rfl
  · exact (applyTxn_frame _ _ _).1

theorem executeOrder_other (b : Broker α) (q : Quotes α) (pid : String) (o : Order) :
    (b.executeOrder q pid o).1.clock = b.clock ∧ (b.executeOrder q pid o).1.fee = b.fee ∧
    (b.executeOrder q pid o).1.master = b.master := by
  unfold Broker.executeOrder
  split
  · exact ⟨rfl, rfl, rfl⟩
  · exact (applyTxn_frame _ _ _).2

theorem executeOrder_log (b : Broker α) (q : Quotes α) (pid : String) (o : Order)
    (h : (b.executeOrder q pid o).2 = none) :
    ∃ tx, b.makeTxn q o = .ok tx ∧ (b.executeOrder q pid o).1.fillLog = b.fillLog ++ [(pid, tx)] := by
  rcases he : b.makeTxn q o with e | tx
  · simp [Broker.executeOrder, he] at h
  · simp only [Broker.executeOrder, he] at h ⊢
    exact ⟨tx, rfl, (applyTxn_log b pid tx).1 h⟩

theorem makeTxn_fields {b : Broker α} {q : Quotes α} {o : Order} {tx : Txn α}
    (h : b.makeTxn q o = .ok tx) : tx.order = o ∧ tx.time = b.clock := by
  obtain ⟨_, _, _, rfl⟩ := makeTxn_ok h
  exact ⟨rfl, rfl⟩

theorem executeOrder_stamp (b : Broker α) (q : Quotes α) (pid : String) (o : Order) :
    ∃ ef, (b.executeOrder q pid o).1.fillLog = b.fillLog ++ ef ∧ ∀ f ∈ ef, f.2.time = b.clock := by
  rcases hm : b.makeTxn q o with e | tx
  · exact ⟨[], by simp [Broker.executeOrder, hm], by simp⟩
  · have hx : b.executeOrder q pid o = b.applyTxn pid tx := by simp [Broker.executeOrder, hm]
    rw [hx]
    by_cases hn : (b.applyTxn pid tx).2 = none
    · refine ⟨[(pid, tx)], (applyTxn_log b pid tx).1 hn, ?_⟩
      intro f hf
      simp only [List.mem_singleton] at hf
      subst hf
      exact (makeTxn_fields hm).2
    · exact ⟨[], by simp [(applyTxn_log b pid tx).2 hn], by simp⟩

theorem runExec_log (q : Quotes α) : ∀ (l : List (String × Order)) (b : Broker α),
    (Broker.runUntilErr (fun b (x : String × Order) => b.executeOrder q x.1 x.2) b l).2 = none →
    ∃ fills : List (String × Txn α),
      (Broker.runUntilErr (fun b (x : String × Order) => b.executeOrder q x.1 x.2) b l).1.fillLog
        = b.fillLog ++ fills ∧
      List.Forall₂ (fun (x : String × Order) (f : String × Txn α) =>
        f.1 = x.1 ∧ b.makeTxn q x.2 = .ok f.2) l fills
  | [], b, _ => ⟨[], by simp [Broker.runUntilErr], List.Forall₂.nil⟩
  | x :: xs, b, h => by
    simp only [Broker.runUntilErr] at h ⊢
    rcases hfx : b.executeOrder q x.1 x.2 with ⟨b', _ | e⟩
    · rw [hfx] at h
      simp only at h ⊢
      have h1 : (b.executeOrder q x.1 x.2).2 = none := by rw [hfx]
      obtain ⟨tx, htx, hlog⟩ := executeOrder_log b q x.1 x.2 h1
      have ho := executeOrder_other b q x.1 x.2
      rw [hfx] at hlog ho
      simp only at hlog ho
      obtain ⟨fills, hf1, hf2⟩ := runExec_log q xs b' h
      refine ⟨(x.1, tx) :: fills, ?_, ?_⟩
      · rw [hf1, hlog]; simp
      · refine List.Forall₂.cons ⟨rfl, htx⟩ (hf2.imp fun y f hy => ?_)
        exact ⟨hy.1, (makeTxn_congr ho.1 ho.2.1 q y.2).symm.trans hy.2⟩
    · rw [hfx] at h; simp at h

theorem clearQueues_qview (b : Broker α) : b.clearQueues.qview = b.qview.map (fun v => (v.1, [])) := by
  simp [Broker.clearQueues, Broker.qview, List.map_map, Function.comp_def]

/-- the batch, sells first, becomes the new fills, each built by `makeTxn` at the update's time -/
theorem update_open_spec (b : Broker α) (t : Int) (q : Quotes α) (hopen : isOpen t = true)
    (hret : (b.update t q).2 = none) :
    (∃ fills : List (String × Txn α), (b.update t q).1.fillLog = b.fillLog ++ fills ∧
      List.Forall₂ (fun (x : String × Order) (f : String × Txn α) =>
        f.1 = x.1 ∧ Broker.makeTxn { b with clock := t } q x.2 = .ok f.2)
        (sellsFirst (fun (x : String × Order) => x.2.isSell) b.drained) fills) ∧
    (b.update t q).1.qview = b.qview.map (fun v => (v.1, [])) := by
  have hm : (b.marked t q).2 = none := by
    by_contra h; rw [update_marks_err b t q h] at hret; exact h hret
  obtain ⟨hq, hc, hf, _, hl, _⟩ := marked_spec b t q
  rw [update_open b t q hopen hm] at hret ⊢
  obtain ⟨fills, hf1, hf2⟩ := runExec_log q _ _ hret
  have hmk : ∀ o, (b.marked t q).1.clearQueues.makeTxn q o = Broker.makeTxn { b with clock := t } q o :=
    makeTxn_congr (b := { b with clock := t }) (b' := (b.marked t q).1.clearQueues) hc hf q
  refine ⟨⟨fills, hf1.trans (congrArg (· ++ fills) hl),
    hf2.imp fun x f h => ⟨h.1, (hmk x.2).symm.trans h.2⟩⟩, ?_⟩
  exact (runUntilErr_inv _ (fun b' => b'.qview = (b.marked t q).1.clearQueues.qview)
    (fun b' x h => (executeOrder_qview b' q x.1 x.2).trans h) _ _ rfl).trans
    ((clearQueues_qview _).trans (by rw [hq]))

theorem submitOrder_drained (b : Broker α) (pid : String) (o : Order) (hwf : WF b) (h : b.has pid = true) :
    (b.submitOrder pid o).1.drained.Perm ((pid, o) :: b.drained) := by
  obtain ⟨e, hf⟩ := find?_of_has h
  obtain ⟨l1, l2, hl, hl', _, _, rfl⟩ := upd_split (fun e : PfEntry α => e.pf.id)
    (fun x => { x with queue := x.queue ++ [o] }) pid hwf hf
  have hl'' : b.entries.map (fun x => if x.pf.id == e.pf.id then ({ x with queue := x.queue ++ [o] } : PfEntry α) else x)
      = l1 ++ { e with queue := e.queue ++ [o] } :: l2 := hl'
  rw [submitOrder_eq b _ o hwf h]
  simp only [Broker.drained, hl'']
  simp only [hl, List.flatMap_append, List.flatMap_cons, List.map_append, List.map_cons, List.map_nil,
    List.append_assoc, List.singleton_append]
  exact (List.perm_middle.append_left _).trans List.perm_middle

/-! ## The batch read per portfolio -/

theorem filter_drained_ne {l : List (PfEntry α)} {pid : String} (h : ∀ x ∈ l, x.pf.id ≠ pid) :
    (l.flatMap fun e => e.queue.map fun o => (e.pf.id, o)).filter (fun x => x.1 == pid) = [] := by
  simp only [List.filter_eq_nil_iff, List.mem_flatMap, List.mem_map]
  rintro _ ⟨e, he, o, _, rfl⟩
  simpa using h e he

/-- needs `WF`: a second entry of the same id would contribute its queue too -/
theorem drained_filter (b : Broker α) (hwf : WF b) (pid : String) :
    b.drained.filter (fun x => x.1 == pid) = (b.queueOf pid).map (fun o => (pid, o)) := by
  unfold Broker.queueOf
  rcases hf : b.find? pid with _ | e
  · exact filter_drained_ne (find?_none hf)
  · obtain ⟨l1, l2, hl, _, h1, h2, rfl⟩ := upd_split (fun e : PfEntry α => e.pf.id) id pid hwf hf
    simp only [Broker.drained, hl, List.flatMap_append, List.flatMap_cons, List.filter_append,
      filter_drained_ne h1, filter_drained_ne h2, List.nil_append, List.append_nil]
    exact List.filter_eq_self.mpr (by simp)

theorem mem_drained_iff (b : Broker α) (hwf : WF b) (pid : String) (o : Order) :
    (pid, o) ∈ b.drained ↔ o ∈ b.queueOf pid := by
  have h : (pid, o) ∈ b.drained ↔ (pid, o) ∈ b.drained.filter (fun x => x.1 == pid) := by
    simp [List.mem_filter]
  rw [h, drained_filter b hwf pid]
  simp

theorem batch_per_portfolio (b : Broker α) (hwf : WF b) (pid : String) :
    ((sellsFirst (fun (x : String × Order) => x.2.isSell) b.drained).filter (fun x => x.1 == pid)).map (·.2)
      = sellsFirst Order.isSell (b.queueOf pid) := by
  rw [sellsFirst_filter, drained_filter b hwf pid, sellsFirst_map (fun x : String × Order => x.2) Order.isSell]
  simp [List.map_map, Function.comp_def]

theorem filled_of_forall₂ {l : List (String × Order)} {fills : List (String × Txn α)}
    {P : String × Order → String × Txn α → Prop}
    (h : List.Forall₂ P l fills) (hP : ∀ x f, P x f → f.1 = x.1 ∧ f.2.order = x.2) :
    fills.map (fun f => (f.1, f.2.order)) = l := by
  induction h with
  | nil => rfl
  | @cons x f xs fs hxf _ ih =>
    have := hP x f hxf
    simp only [List.map_cons, ih, this.1, this.2]

theorem queueOf_nil_of_qview (b : Broker α) (h : ∀ v ∈ b.qview, v.2 = []) (pid : String) : b.queueOf pid = [] := by
  rw [queueOf_of_qview]
  split
  · rename_i v hv; exact h v (List.mem_of_find?_eq_some hv)
  · rfl

/-! ## Runs: the operations of the C04 quantifier, accepted submissions -/

/-- the operations an order life-cycle is quantified over; the component-level ops
(`setClock`/`applyTxn`/`applyMark`/`pfSubscribe`/`pfWithdraw`) bypass the queue -/
def Op.isC04 : Op α → Prop
  | .subAcct _ | .wdAcct _ | .create _ | .subPf _ _ | .wdPf _ _ | .submit _ _ | .update _ _ => True
  | _ => False

def returnsOK (b : Broker α) : Op α → Prop
  | .update t q => (b.update t q).2 = none
  | _ => True

def UpdatesReturn : Broker α → List (Op α) → Prop
  | _, [] => True
  | b, op :: ops => returnsOK b op ∧ UpdatesReturn (step b op).1 ops

def acceptedOne (b : Broker α) : Op α → List (String × Order)
  | .submit pid o => if b.has pid then [(pid, o)] else []
  | _ => []

def accepted : Broker α → List (Op α) → List (String × Order)
  | _, [] => []
  | b, op :: ops => acceptedOne b op ++ accepted (step b op).1 ops

def Op.isOpenUpdate : Op α → Prop
  | .update t _ => isOpen t = true
  | _ => False

theorem run_append (b : Broker α) (l₁ l₂ : List (Op α)) : run b (l₁ ++ l₂) = run (run b l₁) l₂ := by
  induction l₁ generalizing b with
  | nil => rfl
  | cons op os ih => simp only [List.cons_append, run, ih]

theorem accepted_append (b : Broker α) (l₁ l₂ : List (Op α)) :
    accepted b (l₁ ++ l₂) = accepted b l₁ ++ accepted (run b l₁) l₂ := by
  induction l₁ generalizing b with
  | nil => rfl
  | cons op os ih => simp only [List.cons_append, accepted, run, ih, List.append_assoc]

theorem updatesReturn_append (b : Broker α) (l₁ l₂ : List (Op α)) :
    UpdatesReturn b (l₁ ++ l₂) ↔ UpdatesReturn b l₁ ∧ UpdatesReturn (run b l₁) l₂ := by
  induction l₁ generalizing b with
  | nil => simp [UpdatesReturn, run]
  | cons op os ih => simp only [List.cons_append, UpdatesReturn, run, ih, and_assoc]

theorem transfers_frame (b : Broker α) (op : Op α)
    (hop : match op with | .subAcct _ | .wdAcct _ | .subPf _ _ | .wdPf _ _ => True | _ => False) :
    (step b op).1.qview = b.qview ∧ (step b op).1.fillLog = b.fillLog := by
  cases op with
  | subAcct a => rw [show step b (.subAcct a) = b.subscribeAccount a from rfl, subscribeAccount_frame]; exact ⟨rfl, rfl⟩
  | wdAcct a => rw [show step b (.wdAcct a) = b.withdrawAccount a from rfl, withdrawAccount_frame]; exact ⟨rfl, rfl⟩
  | subPf pid a =>
    rw [step_pfOp (op := .subPf pid a) rfl]
    split <;> [exact ⟨rfl, rfl⟩; exact ⟨(call_frame ..).1, call_fillLog_of_nil b _ rfl⟩]
  | wdPf pid a =>
    rw [step_pfOp (op := .wdPf pid a) rfl]
    split <;> [exact ⟨rfl, rfl⟩; exact ⟨(call_frame ..).1, call_fillLog_of_nil b _ rfl⟩]
  | _ => exact absurd hop (by simp)

theorem create_frame (b : Broker α) (pid : String) :
    (b.createPortfolio pid).1.fillLog = b.fillLog ∧ (b.createPortfolio pid).1.drained = b.drained := by
  obtain ⟨-, hl, ⟨-, -, h⟩ | ⟨-, -, h⟩⟩ := create_entries b pid
  · rw [h]; exact ⟨rfl, rfl⟩
  · exact ⟨hl, by simp [Broker.drained, h]⟩

/-! ## The order book along a run -/

/-- from `b` to `b'` the fills `fl` were logged, and what is logged or pending afterwards is what was pending
before plus the accepted submissions `acc`: nothing is dropped, duplicated or altered -/
structure Book (b b' : Broker α) (acc : List (String × Order)) (fl : List (String × Txn α)) : Prop where
  wf : WF b'
  log : b'.fillLog = b.fillLog ++ fl
  perm : (fl.map (fun f => (f.1, f.2.order)) ++ b'.drained).Perm (b.drained ++ acc)

namespace Book
variable {b b' b'' : Broker α} {acc acc' : List (String × Order)} {fl fl' : List (String × Txn α)}

theorem silent (hwf : WF b') (hl : b'.fillLog = b.fillLog) (hd : b'.drained = b.drained) : Book b b' [] [] :=
  ⟨hwf, by rw [hl, List.append_nil], by simp [hd]⟩

theorem trans (h : Book b b' acc fl) (h' : Book b' b'' acc' fl') : Book b b'' (acc ++ acc') (fl ++ fl') := by
  refine ⟨h'.wf, by rw [h'.log, h.log, List.append_assoc], ?_⟩
  rw [List.map_append, List.append_assoc, ← List.append_assoc b.drained]
  exact (h'.perm.append_left _).trans (by rw [← List.append_assoc]; exact h.perm.append_right _)

theorem pending (h : Book b b' acc []) : ∀ x ∈ b.drained, x ∈ b'.drained := fun _ hx =>
  h.perm.symm.subset (List.mem_append_left _ hx)

end Book

/-- what one operation does to the order book: only an update in exchange hours logs anything; it empties the queues
and stamps its fills with its time -/
def StepBook (b : Broker α) (op : Op α) : Prop :=
  ∃ fl, Book b (step b op).1 (acceptedOne b op) fl ∧ (¬ op.isOpenUpdate → fl = []) ∧
    ∀ t q, op = .update t q → isOpen t = true → (step b op).1.drained = [] ∧ ∀ f ∈ fl, f.2.time = t

/-- a step that logs nothing, keeps the queues and accepts nothing -/
theorem StepBook.quiet {b : Broker α} {op : Op α} (hwf : WF b) (hl : (step b op).1.fillLog = b.fillLog)
    (hd : (step b op).1.drained = b.drained) (hacc : acceptedOne b op = []) (hno : ¬ op.isOpenUpdate) :
    StepBook b op :=
  ⟨[], hacc.symm ▸ .silent (step_uniqueIds b op hwf) hl hd, fun _ => rfl,
    fun _ _ e ho => absurd (e ▸ ho : op.isOpenUpdate) hno⟩

/-- an update in exchange hours that returns: the batch becomes the fills, stamped `t`, and the queues are empty -/
theorem update_open_book (b : Broker α) (t : Int) (q : Quotes α) (hwf : WF b) (ho : isOpen t = true)
    (hret : (b.update t q).2 = none) :
    ∃ fills, Book b (b.update t q).1 [] fills ∧ (b.update t q).1.drained = [] ∧ ∀ f ∈ fills, f.2.time = t := by
  obtain ⟨⟨fills, hlog, hf2⟩, hq⟩ := update_open_spec b t q ho hret
  have hdr : (b.update t q).1.drained = [] := by rw [drained_of_qview, hq]; simp [List.flatMap_map]
  refine ⟨fills, ⟨step_uniqueIds b (.update t q) hwf, hlog, ?_⟩, hdr, fun f hf => ?_⟩
  · rw [hdr, filled_of_forall₂ hf2 (fun x f h => ⟨h.1, (makeTxn_fields h.2).1⟩), List.append_nil, List.append_nil]
    exact sellsFirst_perm _ _
  · obtain ⟨x, _, hxf⟩ := forall₂_mem_right hf2 hf
    exact (makeTxn_fields hxf.2).2

theorem step_book (b : Broker α) (op : Op α) (hwf : WF b) (hop : op.isC04) (hret : returnsOK b op) :
    StepBook b op := by
  have transfer := fun (h : (step b op).1.qview = b.qview ∧ (step b op).1.fillLog = b.fillLog) =>
    StepBook.quiet hwf h.2 (drained_congr h.1)
  cases op with
  | subAcct _ | wdAcct _ | subPf _ _ | wdPf _ _ => exact transfer (transfers_frame b _ trivial) rfl id
  | create pid =>
    obtain ⟨hl, hd⟩ := create_frame b pid
    exact .quiet hwf hl hd rfl id
  | submit pid o =>
    by_cases hh : b.has pid = true
    · -- accepted: nothing logged, the order joins the pending ones
      refine ⟨[], ⟨step_uniqueIds b _ hwf, ((submitOrder_pfs b pid o hwf).2.2).trans (List.append_nil _).symm, ?_⟩,
        fun _ => rfl, fun _ _ h => nomatch h⟩
      simp only [acceptedOne, hh, if_true, List.map_nil, List.nil_append]
      exact (submitOrder_drained b pid o hwf hh).trans (List.perm_append_singleton _ _).symm
    · have e : step b (.submit pid o) = (b, some .key) := submitOrder_none (find?_of_not_has (by simpa using hh)) o
      exact .quiet hwf (by rw [e]) (by rw [e]) (by simp [acceptedOne, hh]) id
  | update t q =>
    by_cases ho : isOpen t = true
    · obtain ⟨fills, hB, hdr, htime⟩ := update_open_book b t q hwf ho hret
      exact ⟨fills, hB, fun hno => absurd ho hno, by rintro _ _ ⟨rfl, rfl⟩ _; exact ⟨hdr, htime⟩⟩
    · have e : step b (.update t q) = b.marked t q := update_closed b t q (by simpa using ho)
      obtain ⟨hq, -, -, -, hl, -⟩ := marked_spec b t q
      exact .quiet hwf (by rw [e]; exact hl) (by rw [e]; exact drained_congr hq) rfl (fun h => ho h)
  | _ => exact absurd hop (by simp [Op.isC04])

theorem run_book (b : Broker α) (ops : List (Op α)) (hwf : WF b) (hops : ∀ op ∈ ops, op.isC04)
    (hret : UpdatesReturn b ops) :
    ∃ fl, Book b (run b ops) (accepted b ops) fl ∧ ((∀ op ∈ ops, ¬ op.isOpenUpdate) → fl = []) := by
  induction ops generalizing b with
  | nil => exact ⟨[], .silent hwf rfl rfl, fun _ => rfl⟩
  | cons op os ih =>
    obtain ⟨fl, h, hq, _⟩ := step_book b op hwf (hops op (List.mem_cons_self ..)) hret.1
    obtain ⟨fl', h', hq'⟩ := ih _ h.wf (fun o ho => hops o (List.mem_cons_of_mem _ ho)) hret.2
    exact ⟨fl ++ fl', h.trans h', fun hc => by
      rw [hq (hc op (List.mem_cons_self ..)), hq' fun o ho => hc o (List.mem_cons_of_mem _ ho)]; rfl⟩

theorem conservation (b : Broker α) (ops : List (Op α)) (hwf : WF b) (hops : ∀ op ∈ ops, op.isC04)
    (hret : UpdatesReturn b ops) :
    ((run b ops).filled ++ (run b ops).drained).Perm (b.filled ++ b.drained ++ accepted b ops) := by
  obtain ⟨fl, h, _⟩ := run_book b ops hwf hops hret
  rw [filled_of_log h.log, List.append_assoc, List.append_assoc]
  exact h.perm.append_left _

/-- one pending order stays pending while no update in exchange hours comes; the first such update fills it, stamped
with its time, and it is in the log ever after -/
theorem pending_fate (b : Broker α) (ops : List (Op α)) (hwf : WF b) (hops : ∀ op ∈ ops, op.isC04)
    (hret : UpdatesReturn b ops) (x : String × Order) (hx : x ∈ b.drained) :
    ((∀ op ∈ ops, ¬ op.isOpenUpdate) → (run b ops).fillLog = b.fillLog ∧ x ∈ (run b ops).drained) ∧
    (∀ l₁ t q l₂, ops = l₁ ++ Op.update t q :: l₂ → (∀ op ∈ l₁, ¬ op.isOpenUpdate) → isOpen t = true →
      ∃ f ∈ (run b ops).fillLog, f.1 = x.1 ∧ f.2.order = x.2 ∧ f.2.time = t) := by
  constructor
  · intro hc
    obtain ⟨fl, h, hq⟩ := run_book b ops hwf hops hret
    cases hq hc
    exact ⟨by rw [h.log, List.append_nil], h.pending x hx⟩
  · rintro l₁ t q l₂ rfl hc ho
    rw [updatesReturn_append] at hret
    obtain ⟨fl₁, h₁, hq₁⟩ := run_book b l₁ hwf (fun o h => hops o (List.mem_append_left _ h)) hret.1
    cases hq₁ hc
    obtain ⟨fl₂, h₂, hdr, htime⟩ := update_open_book (run b l₁) t q h₁.wf ho hret.2.1
    obtain ⟨fl₃, h₃, _⟩ := run_book ((run b l₁).update t q).1 l₂ h₂.wf
      (fun o h => hops o (List.mem_append_right _ (List.mem_cons_of_mem _ h))) hret.2.2
    -- the update emptied the queues and accepted nothing: `x` is among its fills
    have hm := h₂.perm.symm.subset (List.mem_append_left _ (h₁.pending x hx))
    simp only [hdr, List.append_nil, List.mem_map] at hm
    obtain ⟨f, hf, rfl⟩ := hm
    refine ⟨f, ?_, rfl, rfl, htime f hf⟩
    rw [run_append, show run (run b l₁) (Op.update t q :: l₂) = run ((run b l₁).update t q).1 l₂ from rfl, h₃.log, h₂.log]
    exact List.mem_append_left _ (List.mem_append_right _ hf)

/-- `pending_fate` for the order whose accepted submission stands between `pre` and `post` -/
theorem submitted_fate (b : Broker α) (pre post : List (Op α)) (pid : String) (o : Order) (hwf : WF b)
    (hops : ∀ op ∈ pre ++ Op.submit pid o :: post, op.isC04)
    (hret : UpdatesReturn b (pre ++ Op.submit pid o :: post)) (hacc : (run b pre).has pid = true) :
    ((∀ op ∈ post, ¬ op.isOpenUpdate) → (pid, o) ∈ (run b (pre ++ Op.submit pid o :: post)).drained) ∧
    (∀ l₁ t q l₂, post = l₁ ++ Op.update t q :: l₂ → (∀ op ∈ l₁, ¬ op.isOpenUpdate) → isOpen t = true →
      ∃ tx, (pid, tx) ∈ (run b (pre ++ Op.submit pid o :: post)).fillLog ∧ tx.order = o ∧ tx.time = t) := by
  rw [updatesReturn_append] at hret
  obtain ⟨_, h₁, _⟩ := run_book b pre hwf (fun op h => hops op (List.mem_append_left _ h)) hret.1
  obtain ⟨_, h₂, _⟩ := step_book (run b pre) (.submit pid o) h₁.wf trivial trivial
  obtain ⟨hstay, hfill⟩ := pending_fate _ post h₂.wf
    (fun op h => hops op (List.mem_append_right _ (List.mem_cons_of_mem _ h))) hret.2.2 (pid, o)
    ((submitOrder_drained (run b pre) pid o h₁.wf hacc).symm.subset (List.mem_cons_self ..))
  rw [show run b (pre ++ Op.submit pid o :: post) = run (step (run b pre) (Op.submit pid o)).1 post by
    rw [run_append]; rfl]
  refine ⟨fun hc => (hstay hc).2, fun l₁ t q l₂ hl hc ho => ?_⟩
  obtain ⟨⟨p, tx⟩, hf, hf1, hf2, hf3⟩ := hfill l₁ t q l₂ hl hc ho
  cases (hf1 : p = pid)
  exact ⟨tx, hf, hf2, hf3⟩

/-- with pairwise distinct order ids among filled and pending orders, membership decides the count of an id in the log -/
theorem count_id {R : Broker α} (hwf : WF R) (hnd : ((R.filled ++ R.drained).map (·.2.id)).Nodup) (pid : String)
    (o : Order) :
    ((pid, o) ∈ R.drained → o ∈ R.queueOf pid ∧ (R.fillLog.map (·.2.orderId)).count o.id = 0) ∧
    (∀ tx, (pid, tx) ∈ R.fillLog → tx.order = o →
      (R.fillLog.map (·.2.orderId)).count o.id = 1 ∧ o ∉ R.queueOf pid) ∧
    ∀ i, (R.fillLog.map (·.2.orderId)).count i ≤ 1 := by
  have hids : R.fillLog.map (·.2.orderId) = R.filled.map (·.2.id) := by
    simp [Broker.filled, List.map_map, Function.comp_def, Txn.order]
  rw [List.map_append, List.nodup_append] at hnd
  obtain ⟨hndF, -, hdisj⟩ := hnd
  have pend : o ∈ R.queueOf pid → o.id ∈ R.drained.map (·.2.id) := fun h =>
    List.mem_map.mpr ⟨(pid, o), (mem_drained_iff _ hwf pid o).mpr h, rfl⟩
  rw [hids]
  refine ⟨fun hm => ⟨(mem_drained_iff _ hwf pid o).mp hm, List.count_eq_zero.mpr fun hf =>
    hdisj _ hf _ (pend ((mem_drained_iff _ hwf pid o).mp hm)) rfl⟩, fun tx hf ho => ?_, List.nodup_iff_count.mp hndF⟩
  have hmem : o.id ∈ R.filled.map (·.2.id) :=
    List.mem_map.mpr ⟨(pid, tx.order), List.mem_map.mpr ⟨_, hf, rfl⟩, by rw [ho]⟩
  exact ⟨List.count_eq_one_of_mem hndF hmem, fun hq => hdisj _ hmem _ (pend hq) rfl⟩

theorem isOpenUpdate_iff (l : List (Op α)) :
    (∀ op ∈ l, ¬ op.isOpenUpdate) ↔ ∀ t q, Op.update t q ∈ l → isOpen t = false := by
  constructor
  · intro h t q hm
    have := h _ hm
    simpa [Op.isOpenUpdate] using this
  · intro h op hop
    cases op with
    | update t q => simp [Op.isOpenUpdate, h t q hop]
    | _ => simp [Op.isOpenUpdate]

theorem exists_first_open (l : List (Op α)) (h : ∃ op ∈ l, op.isOpenUpdate) :
    ∃ l₁ t q l₂, l = l₁ ++ Op.update t q :: l₂ ∧ isOpen t = true ∧ ∀ op ∈ l₁, ¬ op.isOpenUpdate := by
  classical
  obtain ⟨op, hop, ho⟩ := h
  obtain ⟨x, hx⟩ := Option.isSome_iff_exists.mp
    (List.find?_isSome (p := fun o : Op α => decide o.isOpenUpdate) |>.mpr ⟨op, hop, decide_eq_true ho⟩)
  obtain ⟨hp, l₁, l₂, rfl, hl⟩ := List.find?_eq_some_iff_append.mp hx
  cases x with
  | update t q =>
    exact ⟨l₁, t, q, l₂, rfl, (of_decide_eq_true hp : (Op.update t q).isOpenUpdate), fun y hy => by simpa using hl y hy⟩
  | _ => exact absurd (of_decide_eq_true hp) (by simp [Op.isOpenUpdate])

end

/-! ## No execution error under the quantifier's hypotheses -/

section
variable {α : Type} [Field α] [LinearOrder α] [IsStrictOrderedRing α] [FloorRing α] [NumOps α] [LawfulNumOps α]

def ClocksOK (b : Broker α) : Prop :=
  ∀ e ∈ b.entries, e.pf.clock ≤ b.clock ∧ ∀ pos ∈ e.pf.positions, pos.clock ≤ b.clock

def QuotesPos (q : Quotes α) : Prop := ∀ a bid ask, q a = some (bid, ask) → 0 < bid ∧ 0 < ask

theorem clocksOK_setPf {b : Broker α} (h : ClocksOK b) (p : Portfolio α) (hc : p.clock ≤ b.clock)
    (hp : ∀ pos ∈ p.positions, pos.clock ≤ b.clock) : ClocksOK (b.setPf p) := by
  intro e he
  simp only [Broker.setPf, List.mem_map] at he
  obtain ⟨x, hx, rfl⟩ := he
  split
  · exact ⟨hc, hp⟩
  · exact h x hx

theorem call_clocksOK {b : Broker α} (h : ClocksOK b) (pid : String) (c : PfCall α) (m : α)
    (hc : ∀ e ∈ b.entries, (c.run e.pf).1.clock ≤ b.clock ∧ ∀ pos ∈ (c.run e.pf).1.positions, pos.clock ≤ b.clock) :
    ClocksOK (b.call pid c m).1 := by
  cases hf : b.find? pid with
  | none => rw [call_none hf]; exact h
  | some e =>
    have := clocksOK_setPf h _ (hc e (find?_mem hf)).1 (hc e (find?_mem hf)).2
    rw [call_some hf]; cases (c.run e.pf).2 <;> exact this

theorem call_ok {b : Broker α} (h : ClocksOK b) {pid : String} (hpid : b.has pid = true) (c : PfCall α) (m : α)
    (hc : ∀ e ∈ b.entries, (c.run e.pf).2 = none ∧ (c.run e.pf).1.clock ≤ b.clock ∧
      ∀ pos ∈ (c.run e.pf).1.positions, pos.clock ≤ b.clock) :
    (b.call pid c m).2 = none ∧ ClocksOK (b.call pid c m).1 := by
  obtain ⟨e, hf⟩ := find?_of_has hpid
  exact ⟨by rw [call_out, hf]; exact (hc e (find?_mem hf)).1, call_clocksOK h _ _ _ fun e he => (hc e he).2⟩

/-- the invariant of the marking phase at `t`: clock `t`, queues (hence portfolios) of `b` -/
theorem applyMark_inv (b : Broker α) (t : Int) (b' : Broker α) (m : String × String × α)
    (h : ClocksOK b' ∧ b'.clock = t ∧ b'.qview = b.qview) (hm : b.has m.1 = true ∧ 0 < m.2.2) :
    (b'.applyMark m.1 m.2.1 m.2.2 t).2 = none ∧ ClocksOK (b'.applyMark m.1 m.2.1 m.2.2 t).1 ∧
      (b'.applyMark m.1 m.2.1 m.2.2 t).1.clock = t ∧ (b'.applyMark m.1 m.2.1 m.2.2 t).1.qview = b.qview := by
  obtain ⟨h1, rfl, h3⟩ := h
  suffices hk : (b'.applyMark m.1 m.2.1 m.2.2 b'.clock).2 = none ∧ ClocksOK (b'.applyMark m.1 m.2.1 m.2.2 b'.clock).1 from
    ⟨hk.1, hk.2, applyMark_clock .., (applyMark_qview ..).trans h3⟩
  rw [applyMark_eq_call]
  refine call_ok h1 ((has_of_ids (congrArg _ h3) _).trans hm.1) _ _ fun e he => ?_
  have hk := mark_ok e.pf m.2.1 m.2.2 b'.clock (h1 e he).1 (h1 e he).2 hm.2
  obtain ⟨_, _, _, hclk⟩ := mark_frame e.pf m.2.1 m.2.2 b'.clock
  exact ⟨hk.1, hclk.trans_le (h1 e he).1, hk.2⟩

theorem markTargets_ok {b : Broker α} {q : Quotes α} (hpos : QuotesPos q) :
    ∀ m ∈ b.markTargets q, b.has m.1 = true ∧ 0 < m.2.2 := by
  intro m hm
  obtain ⟨e, he, hm⟩ := List.mem_flatMap.mp hm
  obtain ⟨pos, _, hm⟩ := List.mem_filterMap.mp hm
  rcases hq : q pos.asset with _ | ⟨bid, ask⟩ <;> rw [hq] at hm <;> cases hm
  have hpq := hpos _ _ _ hq
  exact ⟨has_of_mem he, by rw [ofInt_eq]; exact div_pos (add_pos hpq.1 hpq.2) (by norm_num)⟩

theorem marked_ok (b : Broker α) (t : Int) (q : Quotes α) (hc : ClocksOK b) (ht : b.clock ≤ t)
    (hpos : QuotesPos q) : (b.marked t q).2 = none ∧ ClocksOK (b.marked t q).1 := by
  obtain ⟨h1, h2, -⟩ := runUntilErr_ok _ (fun b' => ClocksOK b' ∧ b'.clock = t ∧ b'.qview = b.qview)
    (fun m => b.has m.1 = true ∧ 0 < m.2.2) (applyMark_inv b t)
    (Broker.markTargets { b with clock := t } q) { b with clock := t }
    ⟨fun e he => ⟨(hc e he).1.trans ht, fun pos hp => ((hc e he).2 pos hp).trans ht⟩, rfl, rfl⟩
    (markTargets_ok hpos)
  exact ⟨h1, h2⟩

/-- the fill is stamped with the broker's clock, which no portfolio or position clock is ahead of -/
theorem executeOrder_ok (b : Broker α) (q : Quotes α) (pid : String) (o : Order) (h : ClocksOK b)
    (hpid : b.has pid = true) (hq : ∃ bid ask, q o.asset = some (bid, ask)) (hpos : QuotesPos q) :
    (b.executeOrder q pid o).2 = none ∧ ClocksOK (b.executeOrder q pid o).1 := by
  obtain ⟨bid, ask, hq⟩ := hq
  have htx : b.makeTxn q o = .ok (fillOf b.clock b.fee o bid ask) := by rw [makeTxn_eq, hq]
  have hpr : 0 < (fillOf b.clock b.fee o bid ask).price := by
    show 0 < (if o.qty < 0 then bid else ask)
    split
    · exact (hpos _ _ _ hq).1
    · exact (hpos _ _ _ hq).2
  simp only [Broker.executeOrder, htx, applyTxn_eq_call]
  exact call_ok h hpid _ _ fun e he => transactAsset_ok e.pf _ (h e he).1 (h e he).2 hpr

theorem executeOrder_inv (b : Broker α) (q : Quotes α) (hpos : QuotesPos q) (b' : Broker α) (x : String × Order)
    (h : ClocksOK b' ∧ b'.qview.map (·.1) = b.qview.map (·.1))
    (hx : b.has x.1 = true ∧ ∃ bid ask, q x.2.asset = some (bid, ask)) :
    (b'.executeOrder q x.1 x.2).2 = none ∧ ClocksOK (b'.executeOrder q x.1 x.2).1 ∧
      (b'.executeOrder q x.1 x.2).1.qview.map (·.1) = b.qview.map (·.1) := by
  have hk := executeOrder_ok b' q x.1 x.2 h.1 ((has_of_ids h.2 _).trans hx.1) hx.2 hpos
  exact ⟨hk.1, hk.2, by rw [executeOrder_qview, h.2]⟩

/-- the hypotheses of the C04/C05 quantifier for one `update` -/
structure UpdateOK (b : Broker α) (t : Int) (q : Quotes α) : Prop where
  clocks : ClocksOK b
  time : b.clock ≤ t
  pos : QuotesPos q
  quoted : isOpen t = true → ∀ x ∈ b.drained, ∃ bid ask, q x.2.asset = some (bid, ask)

/-- the marks return (`marked_ok`); in exchange hours every order of the batch belongs to a portfolio of `b` and is
quoted (`executeOrder_inv`) -/
theorem update_ok (b : Broker α) (t : Int) (q : Quotes α) (h : UpdateOK b t q) :
    (b.update t q).2 = none ∧ ClocksOK (b.update t q).1 := by
  have hm := marked_ok b t q h.clocks h.time h.pos
  by_cases ho : isOpen t = true
  · rw [update_open b t q ho hm.1]
    have hids : (b.marked t q).1.clearQueues.qview.map (·.1) = b.qview.map (·.1) := by
      rw [clearQueues_qview, (marked_spec b t q).1, List.map_map]; rfl
    have hclk : ClocksOK (b.marked t q).1.clearQueues := fun e he => by
      obtain ⟨x, hx, rfl⟩ := List.mem_map.mp he
      exact hm.2 x hx
    obtain ⟨h1, h2, -⟩ := runUntilErr_ok _ (fun b' => ClocksOK b' ∧ b'.qview.map (·.1) = b.qview.map (·.1))
      (fun x => b.has x.1 = true ∧ ∃ bid ask, q x.2.asset = some (bid, ask)) (executeOrder_inv b q h.pos)
      (sellsFirst (fun (x : String × Order) => x.2.isSell) b.drained) _ ⟨hclk, hids⟩ fun x hx => by
        have hx' := (sellsFirst_perm _ _).subset hx
        obtain ⟨e, he, hid, _⟩ := mem_drained hx'
        exact ⟨hid ▸ has_of_mem he, h.quoted ho x hx'⟩
    exact ⟨h1, h2⟩
  · rw [update_closed b t q (by simpa using ho)]
    exact hm

/-! ## From the quantifier's hypotheses to "every update returns" -/

/-- `UpdateOK` without its state part, per operation; component-level operations are excluded -/
def opOK (b : Broker α) : Op α → Prop
  | .update t q => b.clock ≤ t ∧ QuotesPos q ∧
      (isOpen t = true → ∀ x ∈ b.drained, ∃ bid ask, q x.2.asset = some (bid, ask))
  | .subAcct _ | .wdAcct _ | .create _ | .subPf _ _ | .wdPf _ _ | .submit _ _ => True
  | _ => False

def TraceOK : Broker α → List (Op α) → Prop
  | _, [] => True
  | b, op :: ops => opOK b op ∧ TraceOK (step b op).1 ops

theorem step_clocksOK (b : Broker α) (op : Op α) (h : ClocksOK b) (hop : opOK b op) :
    ClocksOK (step b op).1 := by
  cases op with
  | subAcct a => rw [show step b (.subAcct a) = b.subscribeAccount a from rfl, subscribeAccount_frame]; exact h
  | wdAcct a => rw [show step b (.wdAcct a) = b.withdrawAccount a from rfl, withdrawAccount_frame]; exact h
  | create pid =>
    -- `createPortfolio` keeps the clock; the new portfolio is created at it and holds nothing
    intro e he
    rw [show (step b (.create pid)).1.clock = b.clock from createPortfolio_clock b pid]
    exact create_forall (P := fun e => e.pf.clock ≤ b.clock ∧ ∀ pos ∈ e.pf.positions, pos.clock ≤ b.clock) h
      (fun _ => ⟨le_refl _, fun _ hp => nomatch hp⟩) e he
  | subPf pid a =>
    rw [step_pfOp (op := .subPf pid a) rfl]
    split
    · exact h
    · refine call_clocksOK h _ _ _ fun e he => ?_
      exact ⟨subscribe_clock_le e.pf b.clock a (h e he).1, (subscribe_positions e.pf b.clock a) ▸ (h e he).2⟩
  | wdPf pid a =>
    rw [step_pfOp (op := .wdPf pid a) rfl]
    split
    · exact h
    · refine call_clocksOK h _ _ _ fun e he => ?_
      exact ⟨withdraw_clock_le e.pf b.clock a (h e he).1, (withdraw_positions e.pf b.clock a) ▸ (h e he).2⟩
  | submit pid o =>
    cases hf : b.find? pid with
    | none => rw [show step b (.submit pid o) = _ from submitOrder_none hf o]; exact h
    | some e =>
      -- the stored entry has the portfolio of the one found
      rw [show step b (.submit pid o) = _ from submitOrder_some hf o]
      intro e' he'
      rcases mem_upd (fun x : PfEntry α => x.pf.id) (fun _ => { e with queue := e.queue ++ [o] }) _ he' with
        h' | ⟨_, _, _, rfl⟩
      exacts [h e' h', h e (find?_mem hf)]
  | update t q => exact (update_ok b t q ⟨h, hop.1, hop.2.1, hop.2.2⟩).2
  | _ => exact absurd hop (by simp [opOK])

theorem traceOK_returns (b : Broker α) (ops : List (Op α)) (hc : ClocksOK b) (h : TraceOK b ops) :
    (∀ op ∈ ops, op.isC04) ∧ UpdatesReturn b ops := by
  induction ops generalizing b with
  | nil => exact ⟨by simp, trivial⟩
  | cons op os ih =>
    obtain ⟨h1, h2⟩ := ih (step b op).1 (step_clocksOK b op hc h.1) h.2
    refine ⟨?_, ?_, h2⟩
    · intro o ho
      rcases List.mem_cons.mp ho with rfl | ho
      · have h1 := h.1; cases o <;> first | exact trivial | exact False.elim h1
      · exact h1 o ho
    · cases op with
      | update t q => exact (update_ok b t q ⟨hc, h.1.1, h.1.2.1, h.1.2.2⟩).1
      | _ => trivial

end
end Qs
