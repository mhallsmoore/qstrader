import QsModel.Position
import QsProofs.Lemmas.ListAux

/-!
# The positions dictionary and one `Position`, as equations (no law on the carrier)

Each operation on `Positions` has one equation saying what `find?` returns afterwards, for every key and every input
(refused fills included); holdings are then reasoned about one key at a time.  A fill on the dictionary is one equation
too (`transactPosition_flat`).  `keys ps` is `ps.map (·.asset)` by definition; hypotheses here use `keys`.

A method of `Position` or `Portfolio` written as one equation carries one of three suffixes, here and in
`BrokerBasic`, `Broker`, `Position`, `Holdings`:
`_flat` — any carrier, every input, the tests as the model writes them (`lt a zero`);
`_eq`   — lawful carrier, every input, the same tree with the tests as order relations (`a < 0`);
`_dom`  — inside the domain (clock not ahead, positive price, ...), where the method is a plain record update.
-/

set_option linter.unusedSectionVars false

namespace Qs

namespace Positions
section dict
variable {α : Type}

def keys (ps : Positions α) : List String := ps.map (·.asset)

theorem find?_some {ps : Positions α} {a : String} {pos : Position α}
    (h : find? ps a = some pos) : pos ∈ ps ∧ pos.asset = a :=
  find?_key_some (fun q : Position α => q.asset) (l := ps) h

theorem find?_eq_none {ps : Positions α} {a : String} : find? ps a = none ↔ a ∉ keys ps := by
  unfold find? keys
  simp [List.find?_eq_none]

theorem contains_iff_mem_keys {ps : Positions α} {a : String} :
    contains ps a = true ↔ a ∈ keys ps := by
  unfold contains keys
  simp

theorem find?_isSome {ps : Positions α} {a : String} : (find? ps a).isSome = true ↔ a ∈ keys ps := by
  rw [← contains_iff_mem_keys]
  exact Bool.eq_iff_iff.mp (find?_key_isSome (fun q : Position α => q.asset) ps a)

theorem find?_map {g : Position α → Position α} (hg : ∀ x, (g x).asset = x.asset) (ps : Positions α)
    (a : String) : find? (ps.map g) a = (find? ps a).map g :=
  find?_key_map (fun q : Position α => q.asset) hg ps a

theorem keys_map {g : Position α → Position α} (hg : ∀ x, (g x).asset = x.asset) (ps : Positions α) :
    keys (ps.map g) = keys ps :=
  map_key_map (fun q : Position α => q.asset) hg ps

theorem keys_set (ps : Positions α) (p : Position α) : keys (set ps p) = keys ps :=
  map_key_upd (fun q : Position α => q.asset) (fun _ => p) p.asset (fun _ _ => rfl) ps

theorem find?_set (ps : Positions α) (p : Position α) (b : String) :
    find? (set ps p) b = if b = p.asset then (find? ps b).map (fun _ => p) else find? ps b := by
  split
  · next h =>
    subst h
    exact find?_upd_self (fun q : Position α => q.asset) (fun _ => p) p.asset (fun _ _ => rfl) ps
  · next h => exact find?_upd_ne (fun q : Position α => q.asset) (fun _ => p) p.asset (fun _ _ => rfl) h ps

theorem mem_set {ps : Positions α} {p x : Position α} (h : x ∈ set ps p) : x = p ∨ x ∈ ps :=
  (mem_upd (fun q : Position α => q.asset) (fun _ => p) p.asset h).symm.imp (fun ⟨_, _, _, e⟩ => e) id

theorem mem_set_asset {ps : Positions α} {p x : Position α} (h : x ∈ set ps p) :
    ∃ y ∈ ps, x.asset = y.asset := by
  have : x.asset ∈ keys ps := keys_set ps p ▸ List.mem_map_of_mem h
  obtain ⟨y, hy, e⟩ := List.mem_map.1 this
  exact ⟨y, hy, e.symm⟩

theorem keys_erase (ps : Positions α) (a : String) :
    keys (erase ps a) = (keys ps).filter (fun k => !(k == a)) := by
  unfold keys erase
  rw [List.filter_map]
  rfl

theorem find?_erase (ps : Positions α) (a b : String) :
    find? (erase ps a) b = if b = a then none else find? ps b := by
  unfold find? erase
  rw [List.find?_filter]
  split
  · next hb =>
    rw [List.find?_eq_none]
    intro x _
    simp [hb]
  · next hb =>
    congr 1
    funext x
    by_cases hx : x.asset = b <;> simp [hx, hb]

theorem mem_erase {ps : Positions α} {a : String} {x : Position α} (h : x ∈ erase ps a) : x ∈ ps :=
  (List.mem_filter.mp h).1

theorem keys_append (ps : Positions α) (p : Position α) : keys (ps ++ [p]) = keys ps ++ [p.asset] := by
  unfold keys; simp

theorem find?_snoc (ps : Positions α) (p : Position α) (b : String) :
    find? (ps ++ [p]) b = (find? ps b).or (if p.asset = b then some p else none) := by
  unfold find?
  rw [List.find?_append]
  congr 1
  by_cases h : p.asset = b <;> simp [h]

theorem find?_of_mem {ps : Positions α} (hnd : (keys ps).Nodup) {pos : Position α} (h : pos ∈ ps) :
    find? ps pos.asset = some pos := by
  cases hf : find? ps pos.asset with
  | none => exact absurd (List.mem_map.mpr ⟨pos, h, rfl⟩) (find?_eq_none.mp hf)
  | some x => rw [find?_key_unique (fun q : Position α => q.asset) hnd hf h rfl]

theorem map_set_same {γ : Type} {ps : Positions α} {a : String} {pos pos' : Position α}
    (hn : (keys ps).Nodup) (hf : find? ps a = some pos) (ha : pos'.asset = a)
    (f : Position α → γ) (hfe : f pos' = f pos) : (set ps pos').map f = ps.map f := by
  subst ha
  exact map_upd_same (fun q : Position α => q.asset) (fun _ => pos') pos'.asset hn hf f hfe

end dict
end Positions

/-! ## One position, one fill (the model's notation classes only) -/

section model
open NumOps Num
variable {α : Type} [Add α] [Sub α] [Mul α] [Div α] [Neg α] [NumOps α]

namespace Position
theorem openFrom_asset (t : Txn α) : (openFrom t).asset = t.asset := by unfold openFrom; split <;> rfl
theorem openFrom_price (t : Txn α) : (openFrom t).price = t.price := by unfold openFrom; split <;> rfl
theorem openFrom_clock (t : Txn α) : (openFrom t).clock = t.time := by unfold openFrom; split <;> rfl
end Position

/-- refused for the time (nothing moves), refused for the price (the clock has moved), accepted -/
theorem Position.updatePrice_flat (p : Position α) (pr : α) (t : Int) :
    p.updatePrice pr t =
      if t < p.clock then (p, some .value)
      else if le pr zero then ({ p with clock := t }, some .value)
      else ({ p with clock := t, price := pr }, none) := rfl

/-- ignored (zero quantity), refused (time, then price; at most the clock moves), bought, sold -/
theorem Position.transact_flat (p : Position α) (t : Txn α) :
    p.transact t =
      if t.qty = 0 then (p, none)
      else if t.time < p.clock then (p, some .value)
      else if le t.price zero then ({ p with clock := t.time }, some .value)
      else if 0 < t.qty then
        ({ p with price := t.price, clock := t.time, buyQ := p.buyQ + ofInt t.qty,
                  avgB := (p.avgB * p.buyQ + ofInt t.qty * t.price) / (p.buyQ + ofInt t.qty),
                  comB := p.comB + t.commission }, none)
      else
        ({ p with price := t.price, clock := t.time, sellQ := p.sellQ + ofInt (-t.qty),
                  avgS := (p.avgS * p.sellQ + ofInt (-t.qty) * t.price) / (p.sellQ + ofInt (-t.qty)),
                  comS := p.comS + t.commission }, none) := by
  unfold Position.transact Position.updatePrice
  by_cases h0 : t.qty = 0
  · rw [if_pos h0, if_pos h0]
  rw [if_neg h0, if_neg h0]
  by_cases h1 : t.time < p.clock
  · rw [if_pos h1, if_pos h1]
  rw [if_neg h1, if_neg h1]
  dsimp only
  by_cases h2 : le t.price zero = true
  · rw [if_pos h2, if_pos h2]
  rw [if_neg h2, if_neg h2]
  dsimp only
  by_cases h3 : 0 < t.qty
  · rw [if_pos h3, if_pos h3]; rfl
  · rw [if_neg h3, if_neg h3]; rfl

theorem Position.updatePrice_asset (p : Position α) (pr : α) (t : Int) : (p.updatePrice pr t).1.asset = p.asset := by
  rw [Position.updatePrice_flat]
  split
  · rfl
  · split <;> rfl

theorem Position.transact_asset (p : Position α) (t : Txn α) : (p.transact t).1.asset = p.asset := by
  rw [Position.transact_flat]
  by_cases h0 : t.qty = 0
  · rw [if_pos h0]
  rw [if_neg h0]
  by_cases h1 : t.time < p.clock
  · rw [if_pos h1]
  rw [if_neg h1]
  by_cases h2 : le t.price zero = true
  · rw [if_pos h2]
  rw [if_neg h2]
  by_cases h3 : 0 < t.qty
  · rw [if_pos h3]
  · rw [if_neg h3]

/-- the tests come before the accumulators are touched (DESIGN §12.5, F4) -/
theorem Position.transact_refused (P : Position α) (t : Txn α) (e : Err) (h : (P.transact t).2 = some e) :
    ∃ c, (P.transact t).1 = { P with clock := c } := by
  rw [transact_flat] at h ⊢
  by_cases h0 : t.qty = 0
  · rw [if_pos h0] at h; cases h
  rw [if_neg h0] at h ⊢
  by_cases h1 : t.time < P.clock
  · rw [if_pos h1]; exact ⟨P.clock, rfl⟩
  rw [if_neg h1] at h ⊢
  by_cases h2 : le t.price zero = true
  · rw [if_pos h2]; exact ⟨t.time, rfl⟩
  rw [if_neg h2] at h
  split at h <;> cases h

/-! ## One fill on the dictionary (`PositionHandler.transact_position`) -/

namespace Positions

/-- what a fill leaves under its own asset, given what was stored there -/
def afterFill (o : Option (Position α)) (t : Txn α) : Option (Position α) :=
  match o with
  | some p =>
    if (p.transact t).2 = none ∧ beq (p.transact t).1.net zero = true then none else some (p.transact t).1
  | none => if beq (Position.openFrom t).net zero = true then none else some (Position.openFrom t)

theorem afterFill_none (t : Txn α) :
    afterFill none t = if beq (Position.openFrom t).net zero = true then none else some (Position.openFrom t) := rfl

theorem afterFill_some_ok {p p' : Position α} {t : Txn α} (h : p.transact t = (p', none)) :
    afterFill (some p) t = if beq p'.net zero = true then none else some p' := by
  unfold afterFill
  simp only [h, true_and]

/-- a fill on the dictionary, in its four shapes; `transactPosition_fst`, `transactPosition_out` are its two halves -/
theorem transactPosition_flat (ps : Positions α) (t : Txn α) :
    transactPosition ps t =
      match find? ps t.asset with
      | some p =>
        if (p.transact t).2 = none ∧ beq (p.transact t).1.net zero = true then (erase ps t.asset, none)
        else (set ps (p.transact t).1, (p.transact t).2)
      | none =>
        if beq (Position.openFrom t).net zero = true then (ps, none) else (ps ++ [Position.openFrom t], none) := by
  unfold transactPosition
  cases find? ps t.asset with
  | none => rfl
  | some p =>
    dsimp only
    rcases p.transact t with ⟨p', _ | e⟩
    · simp only [true_and]
    · simp only [reduceCtorEq, false_and, if_false]

theorem transactPosition_fst (ps : Positions α) (t : Txn α) :
    (transactPosition ps t).1 =
      match find? ps t.asset with
      | some p =>
        if (p.transact t).2 = none ∧ beq (p.transact t).1.net zero = true then erase ps t.asset
        else set ps (p.transact t).1
      | none => if beq (Position.openFrom t).net zero = true then ps else ps ++ [Position.openFrom t] := by
  rw [transactPosition_flat]
  cases find? ps t.asset <;> dsimp only <;> split <;> rfl

theorem find?_transactPosition (ps : Positions α) (t : Txn α) (a : String) :
    find? (transactPosition ps t).1 a =
      if a = t.asset then afterFill (find? ps t.asset) t else find? ps a := by
  rw [transactPosition_fst]
  unfold afterFill
  cases hf : find? ps t.asset with
  | some p =>
    have hk : (p.transact t).1.asset = t.asset := (Position.transact_asset p t).trans (find?_some hf).2
    dsimp only
    split
    · exact find?_erase ps t.asset a
    · rw [find?_set, hk]
      split
      · next h => rw [h, hf]; rfl
      · rfl
  | none =>
    dsimp only
    split
    · split
      · next h => rw [h, hf]
      · rfl
    · rw [find?_snoc, Position.openFrom_asset]
      by_cases h : a = t.asset
      · rw [if_pos h, h, hf, if_pos rfl]; rfl
      · rw [if_neg h, if_neg (fun e => h e.symm), Option.or_none]

theorem transactPosition_out (ps : Positions α) (t : Txn α) :
    (ps.transactPosition t).2 =
      match Positions.find? ps t.asset with
      | none => none
      | some p => (p.transact t).2 := by
  rw [transactPosition_flat]
  cases find? ps t.asset <;> dsimp only <;> split <;> first | rfl | (next h => exact h.1.symm)

theorem transactPosition_err (ps : Positions α) (t : Txn α) {e : Err}
    (h : (ps.transactPosition t).2 = some e) :
    ∃ p, Positions.find? ps t.asset = some p ∧ (p.transact t).2 = some e ∧
      (ps.transactPosition t).1 = Positions.set ps (p.transact t).1 := by
  have hout := transactPosition_out ps t
  rw [h] at hout
  cases hf : Positions.find? ps t.asset with
  | none => rw [hf] at hout; cases hout
  | some p =>
    rw [hf] at hout
    simp only at hout
    refine ⟨p, rfl, hout.symm, ?_⟩
    rw [transactPosition_fst, hf]
    exact if_neg fun h' => Option.some_ne_none _ (hout.trans h'.1)

theorem mem_transactPosition {ps : Positions α} {t : Txn α} {x : Position α}
    (hx : x ∈ (transactPosition ps t).1) :
    x ∈ ps ∨ (∃ p, find? ps t.asset = some p ∧ x = (p.transact t).1) ∨ x = Position.openFrom t := by
  rw [transactPosition_fst] at hx
  cases hf : find? ps t.asset with
  | some p =>
    rw [hf] at hx
    dsimp only at hx
    split at hx
    · exact Or.inl (mem_erase hx)
    · exact (mem_set hx).elim (fun e => Or.inr (Or.inl ⟨p, rfl, e⟩)) Or.inl
  | none =>
    rw [hf] at hx
    dsimp only at hx
    split at hx
    · exact Or.inl hx
    · exact (List.mem_append.mp hx).imp_right fun h => Or.inr (List.mem_singleton.mp h)

theorem transactPosition_pos (ps : Positions α) (t : Txn α) :
    ∀ x ∈ (transactPosition ps t).1, (∃ y ∈ ps, x.asset = y.asset) ∨ x.asset = t.asset := by
  intro x hx
  rcases mem_transactPosition hx with h | ⟨p, hp, rfl⟩ | rfl
  · exact Or.inl ⟨x, h, rfl⟩
  · exact Or.inl ⟨p, (find?_some hp).1, Position.transact_asset p t⟩
  · exact Or.inr (Position.openFrom_asset t)

theorem keys_transactPosition_nodup (ps : Positions α) (t : Txn α) (hnd : (keys ps).Nodup) :
    (keys (transactPosition ps t).1).Nodup := by
  rw [transactPosition_fst]
  cases hf : find? ps t.asset with
  | some p =>
    dsimp only
    split
    · rw [keys_erase]; exact hnd.filter _
    · rw [keys_set]; exact hnd
  | none =>
    dsimp only
    split
    · exact hnd
    · rw [keys_append, Position.openFrom_asset]
      exact List.Nodup.append hnd (List.nodup_singleton _) (by simpa using find?_eq_none.mp hf)

end Positions

end model

end Qs
