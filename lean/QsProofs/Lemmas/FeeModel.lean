import QsProofs.Lemmas.NumBasic
import QsModel.Broker

/-!
# Fee models

`totalCost` of either fee model is `feeRate · |consideration|` (`totalCost_eq`): the sizers' fee estimate and the
commission of a fill are read through it.
-/

namespace Qs

variable {α : Type} [Field α] [LinearOrder α]

/-- total fee rate of a fee model: `commission + tax` (`0` for the zero-fee model) -/
def feeRate : FeeModel α → α
  | .zero => 0
  | .percent c τ => c + τ

def FeeNonneg : FeeModel α → Prop
  | .zero => True
  | .percent c τ => 0 ≤ c ∧ 0 ≤ τ

@[simp] theorem feeNonneg_percent (c τ : α) : FeeNonneg (FeeModel.percent c τ) ↔ 0 ≤ c ∧ 0 ≤ τ := Iff.rfl

variable [IsStrictOrderedRing α]

theorem feeRate_nonneg {fee : FeeModel α} (h : FeeNonneg fee) : 0 ≤ feeRate fee := by
  cases fee with
  | zero => exact le_rfl
  | percent c τ => exact add_nonneg h.1 h.2

variable [FloorRing α] [NumOps α] [LawfulNumOps α]

theorem totalCost_eq (fee : FeeModel α) (x : α) : fee.totalCost x = feeRate fee * |x| := by
  cases fee with
  | zero => simp [FeeModel.totalCost, feeRate]
  | percent c τ => simp only [FeeModel.totalCost, abs_eq', feeRate]; ring

theorem totalCost_neg (f : FeeModel α) (x : α) : f.totalCost (-x) = f.totalCost x := by
  rw [totalCost_eq, totalCost_eq, abs_neg]

end Qs
