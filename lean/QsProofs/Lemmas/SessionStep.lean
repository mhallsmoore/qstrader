import QsModel.Session

/-!
# The loop body as a chain of stages, and the rules for steps and runs

`andThen` is "run the next stage unless the previous one raised".  `Session.step` is four stages chained by it
(`step_stages`) and `Session.runEvents` a chain of steps (`runEvents_cons`), so a fact about a step or a run is an
invariant kept at whatever exit (`andThen_inv`, `_hoare`, `_err`), a normal return (`andThen_ok`), or a relation between
two chains (`andThen_rel`).
-/

set_option linter.unusedSectionVars false

namespace Qs.Sess

section Comb
variable {σ ε : Type}

def andThen (r : σ × Option ε) (g : σ → σ × Option ε) : σ × Option ε :=
  match r with
  | (s, some e) => (s, some e)
  | (s, none) => g s

theorem andThen_inv {I : σ → Prop} {r : σ × Option ε} {g : σ → σ × Option ε}
    (hr : I r.1) (hg : ∀ s, I s → I (g s).1) : I (andThen r g).1 := by
  rcases r with ⟨s, _ | e⟩
  · exact hg s hr
  · exact hr

theorem andThen_ok {r : σ × Option ε} {g : σ → σ × Option ε} {s' : σ} :
    andThen r g = (s', none) ↔ ∃ s1, r = (s1, none) ∧ g s1 = (s', none) := by
  rcases r with ⟨s, _ | e⟩
  · exact ⟨fun h => ⟨s, rfl, h⟩, fun ⟨s1, h1, h2⟩ => by cases h1; exact h2⟩
  · exact ⟨fun h => (by cases h), fun ⟨s1, h1, _⟩ => (by cases h1)⟩

theorem andThen_rel {τ : Type} {R : σ → τ → Prop} {r : σ × Option ε} {r' : τ × Option ε}
    {g : σ → σ × Option ε} {g' : τ → τ × Option ε}
    (hr : R r.1 r'.1 ∧ r.2 = r'.2) (hg : ∀ s s', R s s' → R (g s).1 (g' s').1 ∧ (g s).2 = (g' s').2) :
    R (andThen r g).1 (andThen r' g').1 ∧ (andThen r g).2 = (andThen r' g').2 := by
  rcases r with ⟨s, _ | e⟩ <;> rcases r' with ⟨s', _ | e'⟩ <;> obtain ⟨h1, h2⟩ := hr <;> cases h2
  · exact hg s s' h1
  · exact ⟨h1, rfl⟩

theorem andThen_err {r : σ × Option ε} {g : σ → σ × Option ε} (hg : ∀ s, (g s).2 = none)
    (h : (andThen r g).2 ≠ none) : andThen r g = r := by
  rcases r with ⟨s, _ | e⟩
  · exact absurd (hg s) h
  · rfl

/-- the two-predicate rule: `F` holds at whatever exit, `I`/`J` hold while the chain is still running -/
theorem andThen_hoare {F I J : σ → Prop} {r : σ × Option ε} {g : σ → σ × Option ε}
    (hr : F r.1 ∧ (r.2 = none → I r.1)) (hg : ∀ s, I s → F (g s).1 ∧ ((g s).2 = none → J (g s).1)) :
    F (andThen r g).1 ∧ ((andThen r g).2 = none → J (andThen r g).1) := by
  rcases r with ⟨s, _ | e⟩
  · exact hg s (hr.2 rfl)
  · exact ⟨hr.1, fun h => by cases h⟩

end Comb

section
variable {α : Type} [Add α] [Sub α] [Mul α] [Div α] [Neg α] [NumOps α]

/-- stage 1 of `step`: `broker.update(dt)` -/
def updStage (px : Px α) (ev : SimEvent) (s : Session α) : Session α × Option Err :=
  ({ s with broker := (s.broker.update ev.time (quotesAt px ev.time)).1 },
   (s.broker.update ev.time (quotesAt px ev.time)).2)

/-- stage 2 of `step`: the signals update on a market close -/
def sigStage (cfg : SessionCfg α) (px : Px α) (ev : SimEvent) (s1 : Session α) : Session α × Option Err :=
  match s1.signals with
  | some c =>
    if ev.kind = .marketClose then
      match c.update (cfg.uni.assets ev.time) (fun a => (px ev.time a).getD cfg.nan) with
      | (c', e) => ({ s1 with signals := some c' }, e)
    else (s1, none)
  | none => (s1, none)

def isReb (cfg : SessionCfg α) (sched : List Int) (t : Int) : Bool := burnOk cfg t && sched.contains t

/-- stage 3 of `step`: the rebalance -/
def rebStage (cfg : SessionCfg α) (alpha : Alpha α) (px : Px α) (sched : List Int) (t : Int) (s2 : Session α) :
    Session α × Option Err :=
  if isReb cfg sched t then rebalanceAt cfg alpha px t s2 else (s2, none)

/-- is an equity point recorded at this event? -/
def isEq (cfg : SessionCfg α) (ev : SimEvent) : Bool := ev.kind = .marketClose && burnOk cfg ev.time

/-- stage 4 of `step`: the equity point on a market close past the burn-in -/
def eqStage (cfg : SessionCfg α) (ev : SimEvent) (s3 : Session α) : Session α × Option Err :=
  if isEq cfg ev then
    ({ s3 with equity := s3.equity ++ [(ev.time, (s3.broker.accountTotalEquity).2)] }, none)
  else (s3, none)

theorem sigStage_frame (cfg : SessionCfg α) (px : Px α) (ev : SimEvent) (s : Session α) :
    (sigStage cfg px ev s).1.broker = s.broker ∧ (sigStage cfg px ev s).1.allocations = s.allocations ∧
    (sigStage cfg px ev s).1.equity = s.equity ∧ (sigStage cfg px ev s).1.nextId = s.nextId := by
  unfold sigStage
  split
  · split
    · exact ⟨rfl, rfl, rfl, rfl⟩
    · exact ⟨rfl, rfl, rfl, rfl⟩
  · exact ⟨rfl, rfl, rfl, rfl⟩

theorem eqStage_none (cfg : SessionCfg α) (ev : SimEvent) (s : Session α) : (eqStage cfg ev s).2 = none := by
  unfold eqStage; split <;> rfl

theorem eqStage_frame (cfg : SessionCfg α) (ev : SimEvent) (s : Session α) :
    (eqStage cfg ev s).1.broker = s.broker ∧ (eqStage cfg ev s).1.allocations = s.allocations ∧
    (eqStage cfg ev s).1.equity =
      s.equity ++ (if isEq cfg ev then [(ev.time, (s.broker.accountTotalEquity).2)] else []) ∧
    (eqStage cfg ev s).1.signals = s.signals := by
  unfold eqStage
  split
  · exact ⟨rfl, rfl, rfl, rfl⟩
  · exact ⟨rfl, rfl, by simp, rfl⟩

theorem rebStage_pos {cfg : SessionCfg α} {sched : List Int} {t : Int} (h : isReb cfg sched t = true)
    (alpha : Alpha α) (px : Px α) (s : Session α) : rebStage cfg alpha px sched t s = rebalanceAt cfg alpha px t s :=
  if_pos h

theorem rebStage_neg {cfg : SessionCfg α} {sched : List Int} {t : Int} (h : isReb cfg sched t = false)
    (alpha : Alpha α) (px : Px α) (s : Session α) : rebStage cfg alpha px sched t s = (s, none) :=
  if_neg (by rw [h]; exact Bool.false_ne_true)

theorem isReb_def (cfg : SessionCfg α) (sched : List Int) (t : Int) :
    (burnOk cfg t && sched.contains t) = isReb cfg sched t := rfl

theorem isReb_fun (cfg : SessionCfg α) (sched : List Int) :
    (fun t => burnOk cfg t && sched.contains t) = isReb cfg sched := rfl

theorem isEq_iff {cfg : SessionCfg α} {ev : SimEvent} :
    isEq cfg ev = true ↔ ev.kind = .marketClose ∧ burnOk cfg ev.time = true := by
  simp only [isEq, Bool.and_eq_true, decide_eq_true_eq]

theorem isEq_fun (cfg : SessionCfg α) :
    (fun ev : SimEvent => decide (ev.kind = .marketClose) && burnOk cfg ev.time) = isEq cfg := rfl

theorem step_stages (cfg : SessionCfg α) (alpha : Alpha α) (px : Px α) (sched : List Int) (s : Session α)
    (ev : SimEvent) :
    s.step cfg alpha px sched ev =
      andThen (andThen (andThen (updStage px ev s) (sigStage cfg px ev)) (rebStage cfg alpha px sched ev.time))
        (eqStage cfg ev) := by
  -- the body of `Session.step`, with its `let`-bound stages named
  have h : s.step cfg alpha px sched ev =
      match s.broker.update ev.time (quotesAt px ev.time) with
      | (b, some e) => ({ s with broker := b }, some e)
      | (b, none) =>
        match sigStage cfg px ev { s with broker := b } with
        | (s2, some e) => (s2, some e)
        | (s2, none) =>
          match rebStage cfg alpha px sched ev.time s2 with
          | (s3, some e) => (s3, some e)
          | (s3, none) => eqStage cfg ev s3 := rfl
  rw [h]
  unfold updStage
  rcases s.broker.update ev.time (quotesAt px ev.time) with ⟨b, _ | e⟩
  · simp only [andThen]
    rcases sigStage cfg px ev { s with broker := b } with ⟨s2, _ | e⟩
    · simp only
      rcases rebStage cfg alpha px sched ev.time s2 with ⟨s3, _ | e⟩ <;> rfl
    · rfl
  · rfl

theorem step_inv {I : Session α → Prop} (cfg : SessionCfg α) (alpha : Alpha α) (px : Px α) (sched : List Int)
    (s : Session α) (ev : SimEvent)
    (hU : I (updStage px ev s).1)
    (hS : ∀ s, I s → I (sigStage cfg px ev s).1)
    (hR : ∀ s, I s → I (rebStage cfg alpha px sched ev.time s).1)
    (hE : ∀ s, I s → I (eqStage cfg ev s).1) :
    I (s.step cfg alpha px sched ev).1 := by
  rw [step_stages]
  exact andThen_inv (andThen_inv (andThen_inv hU hS) hR) hE

theorem step_ok_iff {cfg : SessionCfg α} {alpha : Alpha α} {px : Px α} {sched : List Int} {s s' : Session α}
    {ev : SimEvent} :
    s.step cfg alpha px sched ev = (s', none) ↔
      ∃ b s2 s3, s.broker.update ev.time (quotesAt px ev.time) = (b, none) ∧
        sigStage cfg px ev { s with broker := b } = (s2, none) ∧
        rebStage cfg alpha px sched ev.time s2 = (s3, none) ∧ eqStage cfg ev s3 = (s', none) := by
  simp only [step_stages, andThen_ok, updStage]
  constructor
  · rintro ⟨s3, ⟨s2, ⟨s1, h1, h2⟩, h3⟩, h4⟩
    rw [Prod.mk.injEq] at h1
    obtain ⟨rfl, h1⟩ := h1
    exact ⟨_, s2, s3, Prod.ext rfl h1, h2, h3, h4⟩
  · rintro ⟨b, s2, s3, h1, h2, h3, h4⟩
    exact ⟨s3, ⟨s2, ⟨_, by rw [h1], h2⟩, h3⟩, h4⟩

/-- the rule with one predicate per stage: `F` is what holds of the state left at whatever exit; `I₁ I₂ I₃` what holds
after each stage that returned normally -/
theorem step_hoare {F I₁ I₂ I₃ : Session α → Prop} (cfg : SessionCfg α) (alpha : Alpha α) (px : Px α)
    (sched : List Int) (s : Session α) (ev : SimEvent)
    (hU : F (updStage px ev s).1 ∧ ((updStage px ev s).2 = none → I₁ (updStage px ev s).1))
    (hS : ∀ s, I₁ s → F (sigStage cfg px ev s).1 ∧ ((sigStage cfg px ev s).2 = none → I₂ (sigStage cfg px ev s).1))
    (hR : ∀ s, I₂ s → F (rebStage cfg alpha px sched ev.time s).1 ∧
      ((rebStage cfg alpha px sched ev.time s).2 = none → I₃ (rebStage cfg alpha px sched ev.time s).1))
    (hE : ∀ s, I₃ s → F (eqStage cfg ev s).1) : F (s.step cfg alpha px sched ev).1 := by
  rw [step_stages]
  exact (andThen_hoare (J := fun _ => True) (andThen_hoare (andThen_hoare hU hS) hR)
    (fun s h => ⟨hE s h, fun _ => trivial⟩)).1

/-- the equity stage never raises, so the state a raising step leaves is the one the
first three stages left -/
theorem step_err_inv {I : Session α → Prop} (cfg : SessionCfg α) (alpha : Alpha α) (px : Px α) (sched : List Int)
    (s : Session α) (ev : SimEvent)
    (hU : I (updStage px ev s).1)
    (hS : ∀ s, I s → I (sigStage cfg px ev s).1)
    (hR : ∀ s, I s → I (rebStage cfg alpha px sched ev.time s).1)
    (he : (s.step cfg alpha px sched ev).2 ≠ none) : I (s.step cfg alpha px sched ev).1 := by
  rw [step_stages] at he ⊢
  rw [andThen_err (eqStage_none cfg ev) he]
  exact andThen_inv (andThen_inv hU hS) hR

/-- `step_inv` for what depends on the broker and the allocation records only (`ba`): the signals and equity
stages are frames for both -/
theorem step_inv_ba {J : Broker α → List (Int × List (String × α)) → Prop} (cfg : SessionCfg α) (alpha : Alpha α)
    (px : Px α) (sched : List Int) (s : Session α) (ev : SimEvent)
    (hU : J (s.broker.update ev.time (quotesAt px ev.time)).1 s.allocations)
    (hR : ∀ s, J s.broker s.allocations → isReb cfg sched ev.time = true →
      J (rebalanceAt cfg alpha px ev.time s).1.broker (rebalanceAt cfg alpha px ev.time s).1.allocations) :
    J (s.step cfg alpha px sched ev).1.broker (s.step cfg alpha px sched ev).1.allocations := by
  refine step_inv (I := fun s => J s.broker s.allocations) cfg alpha px sched s ev hU ?_ ?_ ?_
  · intro s h; rw [(sigStage_frame cfg px ev s).1, (sigStage_frame cfg px ev s).2.1]; exact h
  · intro s h
    cases hr : isReb cfg sched ev.time
    · rw [rebStage_neg hr]; exact h
    · rw [rebStage_pos hr]; exact hR s h hr
  · intro s h; rw [(eqStage_frame cfg ev s).1, (eqStage_frame cfg ev s).2.1]; exact h

theorem runEvents_cons (cfg : SessionCfg α) (alpha : Alpha α) (px : Px α) (sched : List Int) (s : Session α)
    (ev : SimEvent) (rest : List SimEvent) :
    Session.runEvents cfg alpha px sched s (ev :: rest) =
      andThen ((s.step cfg alpha px sched ev).1, (s.step cfg alpha px sched ev).2.map (ev.time, ·))
        (fun s1 => Session.runEvents cfg alpha px sched s1 rest) := by
  rw [Session.runEvents]
  rcases s.step cfg alpha px sched ev with ⟨s1, _ | e⟩ <;> rfl

theorem runEvents_cons_ok {cfg : SessionCfg α} {alpha : Alpha α} {px : Px α} {sched : List Int} {s s' : Session α}
    {ev : SimEvent} {rest : List SimEvent} :
    Session.runEvents cfg alpha px sched s (ev :: rest) = (s', none) ↔
      ∃ s1, s.step cfg alpha px sched ev = (s1, none) ∧ Session.runEvents cfg alpha px sched s1 rest = (s', none) := by
  rw [runEvents_cons, andThen_ok]
  simp only [Prod.ext_iff, Option.map_eq_none_iff]

theorem runEvents_nil_ok {cfg : SessionCfg α} {alpha : Alpha α} {px : Px α} {sched : List Int} {s s' : Session α} :
    Session.runEvents cfg alpha px sched s [] = (s', none) ↔ s' = s := by
  simp only [Session.runEvents, Prod.mk.injEq, and_true, eq_comm]

theorem runEvents_inv {I : Session α → Prop} (cfg : SessionCfg α) (alpha : Alpha α) (px : Px α)
    (sched : List Int) :
    ∀ (s : Session α) (events : List SimEvent),
      (∀ s, ∀ ev ∈ events, I s → I (s.step cfg alpha px sched ev).1) → I s →
      I (Session.runEvents cfg alpha px sched s events).1 := by
  intro s events
  induction events generalizing s with
  | nil => exact fun _ h => h
  | cons ev rest ih =>
    intro hstep h
    rw [runEvents_cons]
    exact andThen_inv (hstep s ev (List.mem_cons_self ..) h)
      (fun s1 h1 => ih s1 (fun s e he => hstep s e (List.mem_cons_of_mem _ he)) h1)

/-- for events in time order: `I lo` says "holds, and nothing recorded so far is later than `lo`".  The index the run
ends with is the time of the last event that ran; the callers need only that there is one. -/
theorem runEvents_inv_sorted {I : Int → Session α → Prop} (cfg : SessionCfg α) (alpha : Alpha α) (px : Px α)
    (sched : List Int) :
    ∀ (s : Session α) (events : List SimEvent) (lo : Int),
      (∀ s lo, ∀ ev ∈ events, lo ≤ ev.time → I lo s → I ev.time (s.step cfg alpha px sched ev).1) →
      (events.map (·.time)).Pairwise (· ≤ ·) → (∀ ev ∈ events, lo ≤ ev.time) → I lo s →
      ∃ lo', I lo' (Session.runEvents cfg alpha px sched s events).1 := by
  intro s events
  induction events generalizing s with
  | nil => exact fun lo _ _ _ h => ⟨lo, h⟩
  | cons ev rest ih =>
    intro lo hstep hs hlo h
    have h1 := hstep s lo ev (List.mem_cons_self ..) (hlo ev (List.mem_cons_self ..)) h
    rw [runEvents_cons]
    rw [List.map_cons, List.pairwise_cons] at hs
    refine (andThen_hoare (F := fun s => ∃ lo', I lo' s) (I := I ev.time) (J := fun _ => True)
      ?_ fun s1 h1 => ⟨?_, fun _ => trivial⟩).1
    · exact ⟨⟨ev.time, h1⟩, fun _ => h1⟩
    exact ih s1 ev.time (fun s lo e he => hstep s lo e (List.mem_cons_of_mem _ he)) hs.2
      (fun e he => hs.1 _ (List.mem_map_of_mem he)) h1

theorem runEvents_rel {R : Session α → Session α → Prop} {cfg₁ cfg₂ : SessionCfg α} {alpha₁ alpha₂ : Alpha α}
    {px₁ px₂ : Px α} {sched₁ sched₂ : List Int} :
    ∀ (events : List SimEvent),
      (∀ s s', ∀ ev ∈ events, R s s' →
        R (s.step cfg₁ alpha₁ px₁ sched₁ ev).1 (s'.step cfg₂ alpha₂ px₂ sched₂ ev).1 ∧
        (s.step cfg₁ alpha₁ px₁ sched₁ ev).2 = (s'.step cfg₂ alpha₂ px₂ sched₂ ev).2) →
      ∀ s s', R s s' →
        R (Session.runEvents cfg₁ alpha₁ px₁ sched₁ s events).1 (Session.runEvents cfg₂ alpha₂ px₂ sched₂ s' events).1 ∧
        (Session.runEvents cfg₁ alpha₁ px₁ sched₁ s events).2 = (Session.runEvents cfg₂ alpha₂ px₂ sched₂ s' events).2 := by
  intro events
  induction events with
  | nil => exact fun _ s s' h => ⟨h, rfl⟩
  | cons ev rest ih =>
    intro hstep s s' h
    rw [runEvents_cons, runEvents_cons]
    have h1 := hstep s s' ev (List.mem_cons_self ..) h
    exact andThen_rel ⟨h1.1, by rw [h1.2]⟩
      (fun s1 s1' h' => ih (fun s s' e he => hstep s s' e (List.mem_cons_of_mem _ he)) s1 s1' h')

theorem runEvents_append (cfg : SessionCfg α) (alpha : Alpha α) (px : Px α) (sched : List Int) :
    ∀ (l₁ l₂ : List SimEvent) (s : Session α),
      Session.runEvents cfg alpha px sched s (l₁ ++ l₂) =
        andThen (Session.runEvents cfg alpha px sched s l₁) (fun s' => Session.runEvents cfg alpha px sched s' l₂) := by
  intro l₁ l₂
  induction l₁ with
  | nil => exact fun _ => rfl
  | cons ev rest ih =>
    intro s
    rw [List.cons_append, runEvents_cons, runEvents_cons]
    rcases s.step cfg alpha px sched ev with ⟨s1, _ | e⟩
    · exact ih s1
    · rfl

theorem runEvents_append_ok {cfg : SessionCfg α} {alpha : Alpha α} {px : Px α} {sched : List Int}
    {l₁ l₂ : List SimEvent} {s s' : Session α} :
    Session.runEvents cfg alpha px sched s (l₁ ++ l₂) = (s', none) ↔
      ∃ sm, Session.runEvents cfg alpha px sched s l₁ = (sm, none) ∧
        Session.runEvents cfg alpha px sched sm l₂ = (s', none) := by
  rw [runEvents_append]
  rcases Session.runEvents cfg alpha px sched s l₁ with ⟨sm, _ | e⟩
  · exact ⟨fun h => ⟨sm, rfl, h⟩, fun ⟨_, h1, h2⟩ => (by cases h1; exact h2)⟩
  · exact ⟨fun h => (nomatch h), fun ⟨_, h1, _⟩ => (nomatch h1)⟩

/-- a run that ends in an error at `te`: the events before the failing one ran normally, and the failing event's
step raised the error -/
theorem runEvents_err_split (cfg : SessionCfg α) (alpha : Alpha α) (px : Px α) (sched : List Int) :
    ∀ (events : List SimEvent) (s s' : Session α) (te : Int) (e : Err),
      Session.runEvents cfg alpha px sched s events = (s', some (te, e)) →
      ∃ pre ev post sm, events = pre ++ ev :: post ∧ te = ev.time ∧
        Session.runEvents cfg alpha px sched s pre = (sm, none) ∧
        sm.step cfg alpha px sched ev = (s', some e) := by
  intro events
  induction events with
  | nil => exact fun _ _ _ _ h => nomatch h
  | cons ev rest ih =>
    intro s s' te e h
    rw [runEvents_cons] at h
    rcases hst : s.step cfg alpha px sched ev with ⟨s1, _ | e1⟩
    · rw [hst] at h
      obtain ⟨pre, ev', post, sm, h1, h2, h3, h4⟩ := ih s1 s' te e h
      exact ⟨ev :: pre, ev', post, sm, by rw [h1]; rfl, h2, runEvents_cons_ok.2 ⟨s1, hst, h3⟩, h4⟩
    · rw [hst] at h
      simp only [andThen, Option.map_some, Prod.mk.injEq, Option.some.injEq] at h
      obtain ⟨rfl, rfl, rfl⟩ := h
      exact ⟨[], ev, rest, s, rfl, rfl, rfl, hst⟩

theorem runEvents_ok_fold {β : Type} (L : Session α → List β) (f : SimEvent → List β)
    (cfg : SessionCfg α) (alpha : Alpha α) (px : Px α) (sched : List Int)
    (hstep : ∀ s ev s', s.step cfg alpha px sched ev = (s', none) → L s' = L s ++ f ev) :
    ∀ (events : List SimEvent) (s s' : Session α),
      Session.runEvents cfg alpha px sched s events = (s', none) → L s' = L s ++ events.flatMap f := by
  intro events
  induction events with
  | nil => intro s s' h; cases runEvents_nil_ok.1 h; exact (List.append_nil _).symm
  | cons ev rest ih =>
    intro s s' h
    obtain ⟨s1, h1, h2⟩ := runEvents_cons_ok.1 h
    rw [ih s1 s' h2, hstep s ev s1 h1, List.flatMap_cons, List.append_assoc]

theorem runEvents_err_time (cfg : SessionCfg α) (alpha : Alpha α) (px : Px α) (sched : List Int)
    (events : List SimEvent) (s : Session α) (te : Int) (e : Err)
    (h : (Session.runEvents cfg alpha px sched s events).2 = some (te, e)) : ∃ ev ∈ events, te = ev.time := by
  obtain ⟨pre, ev, post, _, rfl, rfl, -, -⟩ := runEvents_err_split cfg alpha px sched events s _ te e (Prod.ext rfl h)
  exact ⟨ev, List.mem_append_right _ List.mem_cons_self, rfl⟩

end
end Qs.Sess
