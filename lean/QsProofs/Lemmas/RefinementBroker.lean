import QsProofs.Lemmas.RefinementHold

/-!
# C08: the single-portfolio broker against the reference state

`BR fee b st t`: the broker `b` (one portfolio `PORTFOLIO_ID`, clock `t`) represents the reference state `st`:
same cash, same holdings (as lists), same pending orders (queue), same fills.  In the `Refinement*` files a lemma
`op_sim` says that `op` keeps or reads this representation; `op_rel` is a `Sim` statement (both directions, see
`RefinementRel`).
-/

set_option linter.unusedSectionVars false

namespace Qs.Ref

section
variable {α : Type} [Field α] [LinearOrder α] [IsStrictOrderedRing α] [FloorRing α] [NumOps α] [LawfulNumOps α]

/-- `Session.fills` of a session with broker `b`, definitionally -/
def fillsOf (b : Broker α) : List (Fill α) :=
  b.fillLog.map fun (_, t) => { time := t.time, asset := t.asset, qty := t.qty, price := t.price, commission := t.commission }

/-- the portfolio entry represents the reference state (clocks not after `t`) -/
structure ER (e : PfEntry α) (st : RefState α) (t : Int) : Prop where
  id : e.pf.id = PORTFOLIO_ID
  cash : e.pf.cash = st.cash
  wf : C02.WF e.pf t
  hold : posView e.pf.positions = castHold st.hold
  nz : ∀ x ∈ st.hold, x.2 ≠ 0
  queue : e.queue.map (fun o => (o.asset, o.qty)) = st.pending
  pnz : ∀ x ∈ st.pending, x.2 ≠ 0

structure BR (fee : FeeModel α) (b : Broker α) (st : RefState α) (t : Int) : Prop where
  ent : ∃ e, b.entries = [e] ∧ ER e st t
  clock : b.clock = t
  fee : b.fee = fee
  log : fillsOf b = st.fills

/-- every stored position carries the price of instant `t` -/
def Marked (px : Px α) (t : Int) (b : Broker α) : Prop :=
  ∀ e ∈ b.entries, ∀ p ∈ e.pf.positions, px t p.asset = some p.price

theorem marked_single {px : Px α} {t : Int} {b : Broker α} {e : PfEntry α} (he : b.entries = [e]) :
    Marked px t b ↔ ∀ p ∈ e.pf.positions, px t p.asset = some p.price := by
  simp only [Marked, he, List.mem_singleton, forall_eq]

theorem BR.bwf {fee : FeeModel α} {b : Broker α} {st : RefState α} {t0 t : Int} (h : BR fee b st t0) (ht : t0 ≤ t) :
    C02.BWF b t := by
  obtain ⟨⟨e, he, her⟩, -⟩ := h
  refine ⟨by simp [he], fun e' he' => ?_⟩
  rw [he, List.mem_singleton] at he'
  exact he' ▸ her.wf.mono ht

theorem clearQueues_sim (fee : FeeModel α) (b : Broker α) (st : RefState α) (t : Int) (hbr : BR fee b st t) :
    BR fee b.clearQueues { st with pending := [] } t := by
  obtain ⟨⟨e, he, her⟩, hclock, hfee, hlog⟩ := hbr
  refine ⟨⟨{ e with queue := [] }, by simp [Broker.clearQueues, he], ?_⟩, hclock, hfee, hlog⟩
  exact ⟨her.id, her.cash, her.wf, her.hold, her.nz, rfl, by intro x hx; cases hx⟩

theorem drained_sim (fee : FeeModel α) (b : Broker α) (st : RefState α) (t : Int) (hbr : BR fee b st t) :
    (sellsFirst (fun (x : String × Order) => x.2.isSell) b.drained).map (fun x => (x.2.asset, x.2.qty))
      = sellsFirst (fun (o : String × Int) => decide (o.2 < 0)) st.pending ∧
    ∀ x ∈ sellsFirst (fun (x : String × Order) => x.2.isSell) b.drained, x.1 = PORTFOLIO_ID ∧ x.2.qty ≠ 0 := by
  obtain ⟨⟨e, he, her⟩, -⟩ := hbr
  have hd : b.drained = e.queue.map (fun o => (e.pf.id, o)) := by
    simp [Broker.drained, he]
  constructor
  · rw [hd, ← her.queue]
    rw [← sellsFirst_map (fun o => (e.pf.id, o)) (fun (x : String × Order) => x.2.isSell) e.queue, List.map_map]
    rw [← sellsFirst_map (fun (o : Order) => (o.asset, o.qty)) (fun (o : String × Int) => decide (o.2 < 0)) e.queue]
    rfl
  · intro x hx
    rw [mem_sellsFirst, hd] at hx
    obtain ⟨o, ho, rfl⟩ := List.mem_map.mp hx
    refine ⟨her.id, ?_⟩
    have : (o.asset, o.qty) ∈ st.pending := by
      rw [← her.queue]; exact List.mem_map.mpr ⟨o, ho, rfl⟩
    exact her.pnz _ this

end
end Qs.Ref
