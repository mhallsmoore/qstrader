import QsProofs.Inst

/-!
# Exact-arithmetic meaning of the `Num` helpers

On the lawful carrier both Python sums are `List.sum`, `isclose` is `|x| ≤ tiny`, `truncI` (Python `int()`) is the
floor of a non-negative and the ceiling of a negative number, `pmax` is `max`, and `roundHalfEvenI` (Python
`round()`) is the nearest integer, the even one at a tie (`rhe_dist`, `rhe_nearest`, `rhe_tie`), and odd (`rhe_neg`).
`foldl_max_spec` (a fold of `max` returns the largest element) is here for `Stats`, where `pmax` is folded
(high-water marks, the maximum of C17).
-/

namespace Qs
open NumOps Num

section
variable {α : Type} [Field α]

theorem foldl_add_eq (l : List α) (a : α) : l.foldl (· + ·) a = a + l.sum := by
  induction l generalizing a with
  | nil => simp
  | cons x xs ih => rw [List.foldl_cons, ih, List.sum_cons]; ring

variable [NumOps α]

theorem neumaierStep_zero (a x : α) : neumaierStep (a, 0) x = (a + x, 0) := by
  unfold neumaierStep
  have e1 : (0 : α) + ((a - (a + x)) + x) = 0 := by ring
  have e2 : (0 : α) + ((x - (a + x)) + a) = 0 := by ring
  simp only [e1, e2, ite_self]

theorem foldl_neumaier (l : List α) (a : α) : l.foldl neumaierStep (a, 0) = (a + l.sum, 0) := by
  induction l generalizing a with
  | nil => simp
  | cons x xs ih => rw [List.foldl_cons, neumaierStep_zero, ih, List.sum_cons]; congr 1; ring

end

variable {α : Type} [Field α] [LinearOrder α] [IsStrictOrderedRing α] [FloorRing α] [NumOps α] [LawfulNumOps α]

theorem sumNaive_eq_sum (l : List α) : sumNaive l = l.sum := by
  unfold sumNaive; rw [foldl_add_eq]; simp

theorem sumNeumaier_eq (l : List α) : sumNeumaier l = l.sum := by
  unfold sumNeumaier
  simp only [zero_eq]
  rw [foldl_neumaier]; simp

theorem isCloseZero_eq (x : α) : isCloseZero x = decide (|x| ≤ tiny) := by
  simp [isCloseZero]

theorem truncI_eq (x : α) : truncI x = if 0 ≤ x then ⌊x⌋ else ⌈x⌉ := by
  simp [truncI]

theorem truncI_abs_le (x : α) : |((truncI x : Int) : α)| ≤ |x| ∧ |x| - 1 < |((truncI x : Int) : α)| := by
  rw [truncI_eq]
  split
  · rename_i h
    rw [abs_of_nonneg h, abs_of_nonneg (Int.cast_nonneg (Int.floor_nonneg.mpr h))]
    exact ⟨Int.floor_le x, sub_lt_iff_lt_add.mpr (Int.lt_floor_add_one x)⟩
  · rename_i h
    have hx : x < 0 := lt_of_not_ge h
    rw [abs_of_neg hx, abs_of_nonpos (Int.cast_nonpos.mpr (Int.ceil_nonpos.mpr hx.le)), ← neg_add']
    exact ⟨neg_le_neg (Int.le_ceil x), neg_lt_neg (Int.ceil_lt_add_one x)⟩

theorem truncI_sign (x : α) : (0 ≤ x → 0 ≤ truncI x) ∧ (x ≤ 0 → truncI x ≤ 0) := by
  rw [truncI_eq]
  refine ⟨fun h => ?_, fun h => ?_⟩
  · rw [if_pos h]; exact Int.floor_nonneg.mpr h
  · split
    · exact Int.floor_nonpos h
    · exact Int.ceil_nonpos.mpr h

theorem truncI_eq_iff (x : α) (z : Int) :
    truncI x = z ↔ (0 ≤ x ∧ (z : α) ≤ x ∧ x < z + 1) ∨ (x < 0 ∧ (z : α) - 1 < x ∧ x ≤ z) := by
  rw [truncI_eq]
  by_cases h : 0 ≤ x
  · rw [if_pos h, Int.floor_eq_iff]
    exact ⟨fun hh => .inl ⟨h, hh⟩, fun hh => hh.elim (·.2) fun hn => absurd h (not_le.mpr hn.1)⟩
  · rw [if_neg h, Int.ceil_eq_iff]
    exact ⟨fun hh => .inr ⟨not_le.mp h, hh⟩, fun hh => hh.elim (fun hp => absurd hp.1 h) (·.2)⟩

theorem pmax_eq (a b : α) : pmax a b = max a b := by
  unfold pmax
  simp only [lt_eq, decide_eq_true_eq]
  split
  · rename_i h; exact (max_eq_right h.le).symm
  · rename_i h; exact (max_eq_left (not_lt.mp h)).symm

omit [Field α] [IsStrictOrderedRing α] [FloorRing α] [NumOps α] [LawfulNumOps α] in
theorem foldl_max_spec (h : α) (l : List α) :
    (∀ y ∈ h :: l, y ≤ l.foldl max h) ∧ l.foldl max h ∈ h :: l := by
  induction l generalizing h with
  | nil => simp
  | cons y ys ih =>
    obtain ⟨h1, h2⟩ := ih (max h y)
    rw [List.foldl_cons]
    have hm := h1 _ List.mem_cons_self
    refine ⟨fun z hz => ?_, ?_⟩
    · rcases List.mem_cons.mp hz with rfl | hz
      · exact (le_max_left _ _).trans hm
      · rcases List.mem_cons.mp hz with rfl | hz
        · exact (le_max_right _ _).trans hm
        · exact h1 z (List.mem_cons_of_mem _ hz)
    · rcases List.mem_cons.mp h2 with h2 | h2
      · rw [h2]
        rcases max_choice h y with hm | hm <;> rw [hm] <;> simp
      · exact List.mem_cons_of_mem _ (List.mem_cons_of_mem _ h2)

theorem rhe_spec (x : α) :
    (x - (⌊x⌋ : α) < 1 / 2 → roundHalfEvenI x = ⌊x⌋) ∧
    (1 / 2 < x - (⌊x⌋ : α) → roundHalfEvenI x = ⌊x⌋ + 1) ∧
    (x - (⌊x⌋ : α) = 1 / 2 → roundHalfEvenI x = if ⌊x⌋ % 2 = 0 then ⌊x⌋ else ⌊x⌋ + 1) := by
  have hhalf : ((1 : Int) : α) / ((2 : Int) : α) = 1 / 2 := by norm_num
  simp only [roundHalfEvenI, ofInt_eq, lt_eq, floorI_eq, hhalf, decide_eq_true_eq]
  refine ⟨fun h => if_pos h, fun h => ?_, fun h => ?_⟩
  · rw [if_neg (not_lt.mpr h.le), if_pos h]
  · rw [if_neg (by rw [h]; exact lt_irrefl _), if_neg (by rw [h]; exact lt_irrefl _)]

theorem roundHalfEvenI_intCast (n : Int) : roundHalfEvenI (n : α) = n :=
  ((rhe_spec (n : α)).1 (by rw [Int.floor_intCast, sub_self]; norm_num)).trans (Int.floor_intCast n)

omit [NumOps α] [LawfulNumOps α] in
theorem abs_floor_sub (x : α) : |(⌊x⌋ : α) - x| = x - (⌊x⌋ : α) := by
  rw [abs_sub_comm, abs_of_nonneg (sub_nonneg.mpr (Int.floor_le x))]

omit [NumOps α] [LawfulNumOps α] in
theorem abs_floor_succ_sub (x : α) : |((⌊x⌋ + 1 : Int) : α) - x| = 1 - (x - (⌊x⌋ : α)) := by
  have e : ((⌊x⌋ + 1 : Int) : α) - x = 1 - (x - (⌊x⌋ : α)) := by push_cast; ring
  rw [e, abs_of_nonneg (sub_nonneg.mpr (sub_lt_iff_lt_add'.mpr (Int.lt_floor_add_one x)).le)]

theorem rhe_dist (x : α) : |((roundHalfEvenI x : Int) : α) - x| ≤ 1 / 2 := by
  obtain ⟨h1, h2, h3⟩ := rhe_spec x
  -- the floor below one half, the floor plus one above, at one half whichever of the two is even
  rcases lt_trichotomy (x - (⌊x⌋ : α)) (1 / 2) with h | h | h
  · rw [h1 h, abs_floor_sub]; exact h.le
  · rw [h3 h]; split
    · rw [abs_floor_sub]; exact h.le
    · rw [abs_floor_succ_sub, h]; norm_num
  · rw [h2 h, abs_floor_succ_sub]; exact (sub_le_sub_left h.le 1).trans (by norm_num)

theorem rhe_nearest (x : α) (n : Int) (h : |(n : α) - x| < 1 / 2) : roundHalfEvenI x = n := by
  -- `|round x - n| ≤ |round x - x| + |n - x| < 1`, and both are integers
  have e : ((roundHalfEvenI x - n : Int) : α) = (((roundHalfEvenI x : Int) : α) - x) - ((n : α) - x) := by
    push_cast; ring
  have h1 : |((roundHalfEvenI x - n : Int) : α)| < 1 := by
    rw [e]
    exact (abs_sub _ _).trans_lt ((add_lt_add_of_le_of_lt (rhe_dist x) h).trans_eq (by norm_num))
  have h2 : |roundHalfEvenI x - n| < 1 := by exact_mod_cast h1
  exact sub_eq_zero.mp (Int.abs_lt_one_iff.mp h2)

theorem rhe_tie (x : α) (h : |((roundHalfEvenI x : Int) : α) - x| = 1 / 2) : roundHalfEvenI x % 2 = 0 := by
  obtain ⟨h1, h2, h3⟩ := rhe_spec x
  rcases lt_trichotomy (x - (⌊x⌋ : α)) (1 / 2) with hd | hd | hd
  · rw [h1 hd, abs_floor_sub] at h; exact absurd h hd.ne
  · rw [h3 hd]; split <;> omega
  · rw [h2 hd, abs_floor_succ_sub] at h
    exact absurd ((sub_sub_cancel 1 _).symm.trans (by rw [h]; norm_num)) hd.ne'

theorem rhe_neg (x : α) : roundHalfEvenI (-x) = - roundHalfEvenI x := by
  have half' : (1 : α) - 1 / 2 = 1 / 2 := by norm_num
  rcases eq_or_lt_of_le (Int.floor_le x) with heq | hlt
  · -- `x` is an integer, and so is `-x`: both are their own roundings
    rw [← heq, ← Int.cast_neg, roundHalfEvenI_intCast, roundHalfEvenI_intCast]
  · -- otherwise `⌊-x⌋ = -⌊x⌋ - 1` and the fractional parts add up to one
    have hfl : ⌊-x⌋ = -⌊x⌋ - 1 := by
      rw [Int.floor_eq_iff]
      constructor
      · push_cast; rw [← neg_add', neg_le_neg_iff]; exact (Int.lt_floor_add_one x).le
      · push_cast; rw [sub_add_cancel, neg_lt_neg_iff]; exact hlt
    have hd' : -x - ((⌊-x⌋ : Int) : α) = 1 - (x - (⌊x⌋ : α)) := by rw [hfl]; push_cast; ring
    obtain ⟨n1, n2, n3⟩ := rhe_spec (-x)
    obtain ⟨m1, m2, m3⟩ := rhe_spec x
    rw [hd'] at n1 n2 n3
    rcases lt_trichotomy (x - (⌊x⌋ : α)) (1 / 2) with hd | hd | hd
    · rw [m1 hd, n2 (lt_sub_comm.mpr (by rwa [half'])), hfl]; omega
    · rw [m3 hd, n3 (by rw [hd, half']), hfl]; split <;> split <;> omega
    · rw [m2 hd, n1 (sub_lt_comm.mpr (by rwa [half'])), hfl]; omega

end Qs
