import QsProofs.Lemmas.HoldingsBroker
import QsProofs.Lemmas.AssocList
import QsModel.Reference

/-!
# C08: the position dictionary against `holdAdd`, as lists

`Positions.transactPosition` on a dictionary whose `(asset, net)` view is the integer holdings `hold`
produces a dictionary whose view is `holdAdd hold asset qty` — as LISTS (same dictionary order).  The reference holds
integers, a position keeps `net` in the carrier: `castHold` and `posView` bring both to `List (String × α)`.
-/

set_option linter.unusedSectionVars false

namespace Qs.Ref

section
variable {α : Type} [Field α] [LinearOrder α] [IsStrictOrderedRing α] [FloorRing α] [NumOps α] [LawfulNumOps α]

def castHold (h : List (String × Int)) : List (String × α) := h.map fun x => (x.1, (x.2 : α))

def posView (ps : Positions α) : List (String × α) := ps.map fun p => (p.asset, p.net)

theorem posView_keys (ps : Positions α) : (posView ps).map (·.1) = Positions.keys ps := by
  simp [posView, Positions.keys, List.map_map, Function.comp_def]

theorem castHold_keys (h : List (String × Int)) : (castHold (α := α) h).map (·.1) = h.map (·.1) := by
  simp [castHold, List.map_map, Function.comp_def]

theorem keys_of_view {ps : Positions α} {hold : List (String × Int)} (hv : posView ps = castHold hold) :
    Positions.keys ps = hold.map (·.1) := by
  rw [← posView_keys, hv, castHold_keys]

theorem find?_of_view (ps : Positions α) (hold : List (String × Int)) (a : String)
    (hv : posView ps = castHold hold) :
    (Positions.find? ps a = none ∧ hold.lookup a = none) ∨
    (∃ pos h, Positions.find? ps a = some pos ∧ hold.lookup a = some h ∧ pos.net = (h : α) ∧ pos ∈ ps ∧
        pos.asset = a) := by
  have h : List.Forall₂ (fun (p : Position α) (x : String × Int) => (p.asset, p.net) = (x.1, (x.2 : α))) ps hold := by
    rw [← List.forall₂_map_right_iff, ← List.forall₂_map_left_iff, List.forall₂_eq_eq_eq]
    exact hv
  clear hv
  induction h with
  | nil => exact Or.inl ⟨rfl, rfl⟩
  | @cons p x ps hold hpx _ ih =>
    obtain ⟨h1, h2⟩ := Prod.mk.inj hpx
    obtain ⟨k, v⟩ := x
    by_cases hk : a = k
    · subst hk
      exact Or.inr ⟨p, v, by simp [Positions.find?, h1], by simp [List.lookup], h2, List.mem_cons_self, h1⟩
    · have hk' : ¬ p.asset = a := fun e => hk (e.symm.trans h1)
      rw [show Positions.find? (p :: ps) a = Positions.find? ps a by simp [Positions.find?, hk'],
        show List.lookup a ((k, v) :: hold) = List.lookup a hold by
          rw [List.lookup_cons, show (a == k) = false by simpa using hk]]
      exact ih.imp id fun ⟨pos, h, h4, h5, h6, h7, h8⟩ => ⟨pos, h, h4, h5, h6, List.mem_cons_of_mem _ h7, h8⟩

theorem posView_erase (ps : Positions α) (a : String) :
    posView (Positions.erase ps a) = (posView ps).filter (fun x => !(x.1 == a)) := by
  simp only [posView, Positions.erase, List.filter_map, Function.comp_def]

theorem castHold_filter (hold : List (String × Int)) (a : String) :
    castHold (α := α) (hold.filter fun x => !(x.1 == a)) = (castHold hold).filter (fun x => !(x.1 == a)) := by
  simp only [castHold, List.filter_map, Function.comp_def]

theorem posView_set (ps : Positions α) (p : Position α) :
    posView (Positions.set ps p) = (posView ps).map (fun x => if x.1 == p.asset then (p.asset, p.net) else x) := by
  simp only [posView, Positions.set, List.map_map]
  apply List.map_congr_left
  intro q _
  simp only [Function.comp_def]
  by_cases h : q.asset = p.asset <;> simp [h]

theorem castHold_map (hold : List (String × Int)) (a : String) (n : Int) :
    castHold (α := α) (hold.map fun x => if x.1 == a then (a, n) else x)
      = (castHold hold).map (fun x => if x.1 == a then (a, (n : α)) else x) := by
  simp only [castHold, List.map_map]
  apply List.map_congr_left
  intro q _
  simp only [Function.comp_def]
  by_cases h : q.1 = a <;> simp [h]

theorem holdAdd_ne_zero {hold : List (String × Int)} (hnz : ∀ x ∈ hold, x.2 ≠ 0) (a : String) {q : Int} (hq : q ≠ 0) :
    ∀ x ∈ holdAdd hold a q, x.2 ≠ 0 := by
  intro x hx
  unfold holdAdd at hx
  split at hx
  · rw [if_neg hq] at hx
    rcases List.mem_append.mp hx with hx | hx
    exacts [hnz x hx, List.mem_singleton.mp hx ▸ hq]
  · split at hx
    · exact hnz x (List.mem_filter.mp hx).1
    · next hz =>
      rcases mem_upd (fun x : String × Int => x.1) _ a hx with hx | ⟨-, -, -, rfl⟩
      exacts [hnz x hx, hz]

theorem holdAdd_qty (hold : List (String × Int)) (a : String) (q : Int) (b : String) :
    ((holdAdd hold a q).lookup b).getD 0 = (hold.lookup b).getD 0 + if b = a then q else 0 := by
  unfold holdAdd
  cases h : hold.lookup a with
  | none =>
    -- `a` absent: nothing happens for `q = 0`, else `(a, q)` goes to the end, where only the key `a` finds it
    dsimp only
    split
    · next hq => simp [hq]
    · by_cases hb : b = a
      · simp [List.lookup_append, hb, h]
      · simp [List.lookup_append, List.lookup_cons, hb, beq_false_of_ne hb]
  | some h0 =>
    -- `a` present with `h0`: dropped for `h0 + q = 0`, else set to `h0 + q`; no other key is touched
    dsimp only
    split
    · next hz =>
      rw [lookup_filter_key (fun k => !(k == a))]
      by_cases hb : b = a <;> simp [hb, h]
      omega
    · rw [lookup_map_set]
      by_cases hb : b = a <;> simp [hb, h]

/-- `transactPosition` and `holdAdd` branch on matching tests: asset found or not (`find?_of_view`), new quantity zero
or not (`hnetI`); in each of the three cases the two results have the same view -/
theorem transactPosition_view (ps : Positions α) (hold : List (String × Int)) (tx : Txn α)
    (hv : posView ps = castHold hold) (hclk : ∀ pos ∈ ps, pos.clock ≤ tx.time)
    (hq : tx.qty ≠ 0) (hp : 0 < tx.price) :
    posView (Positions.transactPosition ps tx).1 = castHold (holdAdd hold tx.asset tx.qty) := by
  unfold Positions.transactPosition holdAdd
  rcases find?_of_view ps hold tx.asset hv with ⟨hf, hl⟩ | ⟨pos, h, hf, hl, hnet, hmem, hasset⟩ <;> rw [hf, hl]
  · have hne : (Position.openFrom tx).net ≠ 0 := by
      rw [Position.openFrom_net]; exact Int.cast_ne_zero.mpr hq
    simp only [beq_eq, zero_eq, hne, decide_false, hq, if_false, Bool.false_eq_true]
    simp only [posView, castHold, List.map_append, List.map_cons, List.map_nil] at hv ⊢
    rw [hv, Position.openFrom_net, Position.openFrom_asset]
  · have hnetI : (pos.transact tx).1.net = ((h + tx.qty : Int) : α) := by
      rw [Position.transact_net pos tx hq hp (hclk pos hmem), hnet, Int.cast_add]
    dsimp only
    rw [show pos.transact tx = ((pos.transact tx).1, none) by
      rw [Position.transact_dom pos tx hq hp (hclk pos hmem)]]
    simp only [beq_eq, zero_eq, hnetI, Int.cast_eq_zero]
    by_cases hz : h + tx.qty = 0
    · simp only [hz, decide_true, if_true]
      rw [posView_erase, castHold_filter, hv]
    · simp only [hz, decide_false, if_false, Bool.false_eq_true]
      rw [posView_set, castHold_map, hv, (Position.transact_asset pos tx).trans hasset, hnetI]

theorem holdAdd_keys_subset (hold : List (String × Int)) (a : String) (q : Int) :
    ∀ k ∈ (holdAdd hold a q).map (·.1), k ∈ hold.map (·.1) ∨ k = a := by
  intro k hk
  unfold holdAdd at hk
  split at hk
  · split at hk
    · exact .inl hk
    · rwa [List.map_append, List.mem_append, List.map_singleton, List.mem_singleton] at hk
  · split at hk
    · exact .inl ((List.filter_sublist.map _).subset hk)
    · rw [map_key_upd (fun x : String × Int => x.1) _ a (fun _ _ => rfl)] at hk
      exact .inl hk

end
end Qs.Ref
