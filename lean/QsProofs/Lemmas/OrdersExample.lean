import QsProofs.Lemmas.OrdersFees
import Mathlib.Data.Rat.Floor

/-!
# A concrete broker at `α := ℚ` for the non-vacuity examples of C04 and C05

Two portfolios; `p1` holds 10 `A` and has a buy of `A` and a sell of `B` queued, `p2` has a sell of `A`
queued; quotes with `bid ≠ ask`; percentage fee model.
-/

namespace Qs.Ex

/-- the lawful field instance on `ℚ` (takes precedence over the driver's `NumOps Rat`) -/
noncomputable scoped instance (priority := high) instNumOps : NumOps ℚ := fieldNumOps ℚ
scoped instance instLawful : LawfulNumOps ℚ := fieldNumOps_lawful ℚ

/-- Monday 2021-01-04 15:00:00 UTC (open) -/
def tOpen : Int := 1609772400
/-- Monday 2021-01-04 13:00:00 UTC (closed) -/
def tClosed : Int := 1609765200

def oBuyA : Order := ⟨1, "A", 10⟩
def oSellB : Order := ⟨2, "B", -5⟩
def oSellA : Order := ⟨3, "A", -2⟩

def posA : Position ℚ :=
  { asset := "A", price := 100, clock := 1609700000, buyQ := 10, sellQ := 0, avgB := 100, avgS := 0,
    comB := 0, comS := 0 }

def σ₀ : Broker ℚ :=
  { clock := tClosed, master := 0, fee := .percent (1 / 1000) (5 / 1000),
    entries := [
      { pf := { id := "p1", clock := 1609700000, cash := 10000, positions := [posA] },
        queue := [oBuyA, oSellB] },
      { pf := { id := "p2", clock := 1609700000, cash := 500 }, queue := [oSellA] } ] }

def quotes : Quotes ℚ := fun a =>
  if a = "A" then some (99, 101) else if a = "B" then some (49, 51) else none

theorem wf : WF σ₀ := by simp [WF, σ₀]

theorem drained_eq : σ₀.drained = [("p1", oBuyA), ("p1", oSellB), ("p2", oSellA)] := rfl

theorem batch_eq : sellsFirst (fun (x : String × Order) => x.2.isSell) σ₀.drained
    = [("p1", oSellB), ("p2", oSellA), ("p1", oBuyA)] := by decide

theorem clocksOK : ClocksOK σ₀ := by
  intro e he
  simp only [σ₀, List.mem_cons, List.mem_nil_iff, or_false] at he
  rcases he with rfl | rfl
  · refine ⟨by decide, ?_⟩
    intro pos hp
    simp only [List.mem_cons, List.mem_nil_iff, or_false] at hp
    subst hp; decide
  · exact ⟨by decide, by intro pos hp; cases hp⟩

theorem quotesPos : QuotesPos quotes := by
  intro a bid ask h
  unfold quotes at h
  split at h
  · simp only [Option.some.injEq, Prod.mk.injEq] at h; obtain ⟨rfl, rfl⟩ := h; norm_num
  · split at h
    · simp only [Option.some.injEq, Prod.mk.injEq] at h; obtain ⟨rfl, rfl⟩ := h; norm_num
    · cases h

theorem quoted : ∀ x ∈ σ₀.drained, ∃ bid ask, quotes x.2.asset = some (bid, ask) := by
  intro x hx
  rw [drained_eq] at hx
  simp only [List.mem_cons, List.mem_nil_iff, or_false] at hx
  rcases hx with rfl | rfl | rfl
  · exact ⟨99, 101, rfl⟩
  · exact ⟨49, 51, rfl⟩
  · exact ⟨99, 101, rfl⟩

theorem updateOK_open : UpdateOK σ₀ tOpen quotes := ⟨clocksOK, by decide, quotesPos, fun _ => quoted⟩
theorem updateOK_closed : UpdateOK σ₀ tClosed quotes := ⟨clocksOK, by decide, quotesPos, fun _ => quoted⟩

/-! ### a run: submit a buy of `B` to `p2`, one update outside hours, one update inside hours -/

def oBuyB : Order := ⟨4, "B", 7⟩

def ops : List (Op ℚ) := [.submit "p2" oBuyB, .update tClosed quotes, .update tOpen quotes]

theorem has_p2 : σ₀.has "p2" = true := by decide

theorem accepted_eq : accepted σ₀ ops = [("p2", oBuyB)] := by
  simp only [ops, accepted, acceptedOne, has_p2, if_true, List.append_nil]

theorem traceOK : TraceOK σ₀ ops := by
  have hs := submitOrder_eq σ₀ "p2" oBuyB wf has_p2
  have hd := submitOrder_drained σ₀ "p2" oBuyB wf has_p2
  obtain ⟨hmq, hmc, _⟩ := marked_spec (σ₀.submitOrder "p2" oBuyB).1 tClosed quotes
  have hclosed : isOpen tClosed = false := by decide
  refine ⟨trivial, ⟨?_, quotesPos, ?_⟩, ⟨?_, quotesPos, ?_⟩, trivial⟩
  · show (σ₀.submitOrder "p2" oBuyB).1.clock ≤ tClosed
    rw [hs]; exact (by decide : σ₀.clock ≤ tClosed)
  · intro h; rw [hclosed] at h; cases h
  · show ((σ₀.submitOrder "p2" oBuyB).1.update tClosed quotes).1.clock ≤ tOpen
    rw [update_closed _ _ _ hclosed, hmc]; decide
  · intro _ x hx
    change x ∈ ((σ₀.submitOrder "p2" oBuyB).1.update tClosed quotes).1.drained at hx
    rw [update_closed _ _ _ hclosed, drained_congr hmq] at hx
    rcases List.mem_cons.mp (hd.subset hx) with rfl | hx
    · exact ⟨49, 51, rfl⟩
    · exact quoted x hx

theorem ids_nodup : ((σ₀.filled ++ σ₀.drained ++ accepted σ₀ ops).map (·.2.id)).Nodup := by
  rw [accepted_eq, drained_eq]; decide

end Qs.Ex
