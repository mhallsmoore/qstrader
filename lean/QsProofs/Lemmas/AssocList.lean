import QsProofs.Lemmas.ListAux
import QsModel.Pcm

/-!
# Dictionaries as lists of pairs

Python dictionaries are association lists in insertion order.  What the model does to them is collected here:
`List.lookup` (`d[k]`, `d.get(k)`; any key type with a lawful `==`; `lookup_eq_find?` ties it to the keyed lists of
`ListAux`), and for `String` keys `sortByKey` (`sorted(d.items())`), `sortDedup` (`sorted(set(xs))`, with what it
needs of `eraseDups` and of the order of `String`) and `dictOverlay` (`{**d1, **d2}`).  `dictOfPairs` (a dict
literal with repeated keys) has no lemma: no property reaches it.
-/

namespace Qs

/-! ## `String` order (core states it as `String.le_*`; no `LinearOrder String` without a further import) -/

theorem str_lt_of_le_of_ne {a b : String} (h : a ≤ b) (hne : a ≠ b) : a < b :=
  String.not_le.mp (fun h' => hne (String.le_antisymm h h'))

theorem str_le_of_lt {a b : String} (h : a < b) : a ≤ b :=
  String.not_lt.mp (fun h' => String.lt_irrefl _ (String.lt_trans h h'))

theorem str_ne_of_lt {a b : String} (h : a < b) : a ≠ b :=
  fun e => String.lt_irrefl _ (e ▸ h)

theorem strLe_trans : ∀ (a b c : String), decide (a ≤ b) = true → decide (b ≤ c) = true → decide (a ≤ c) = true := by
  intro a b c h1 h2
  simp only [decide_eq_true_eq] at *
  exact String.le_trans h1 h2

theorem strLe_total : ∀ (a b : String), (decide (a ≤ b) || decide (b ≤ a)) = true := by
  intro a b
  simp only [Bool.or_eq_true, decide_eq_true_eq]
  exact String.le_total a b

theorem keyLe_trans {β : Type} : ∀ (a b c : String × β),
    decide (a.1 ≤ b.1) = true → decide (b.1 ≤ c.1) = true → decide (a.1 ≤ c.1) = true :=
  fun a b c => strLe_trans a.1 b.1 c.1

theorem keyLe_total {β : Type} : ∀ (a b : String × β), (decide (a.1 ≤ b.1) || decide (b.1 ≤ a.1)) = true :=
  fun a b => strLe_total a.1 b.1

theorem nodup_of_pairwise_lt {l : List String} (h : l.Pairwise (· < ·)) : l.Nodup :=
  h.imp (fun hab => str_ne_of_lt hab)

theorem eq_of_pairwise_lt_of_mem_iff {l₁ l₂ : List String} (h₁ : l₁.Pairwise (· < ·)) (h₂ : l₂.Pairwise (· < ·))
    (hm : ∀ a, a ∈ l₁ ↔ a ∈ l₂) : l₁ = l₂ := by
  have hp : l₁.Perm l₂ :=
    (List.perm_ext_iff_of_nodup (nodup_of_pairwise_lt h₁) (nodup_of_pairwise_lt h₂)).mpr hm
  exact hp.eq_of_pairwise (le := (· < ·))
    (fun a b _ _ hab hba => absurd (String.lt_trans hab hba) (String.lt_irrefl _)) h₁ h₂

theorem pairwise_lt_of_le_of_nodup {l : List String} (h : l.Pairwise (· ≤ ·)) (hnd : l.Nodup) :
    l.Pairwise (· < ·) :=
  (h.and hnd).imp (fun hab => str_lt_of_le_of_ne hab.1 hab.2)

theorem eraseDups_sublist_nodup {γ : Type} [BEq γ] [LawfulBEq γ] :
    ∀ (l : List γ), l.eraseDups.Sublist l ∧ l.eraseDups.Nodup
  | [] => by simp
  | a :: as => by
    have ih := eraseDups_sublist_nodup (as.filter fun b => !b == a)
    rw [List.eraseDups_cons, List.nodup_cons, List.mem_eraseDups]
    exact ⟨(ih.1.trans List.filter_sublist).cons_cons a, by simp, ih.2⟩
termination_by l => l.length
decreasing_by
  simp only [List.length_cons]
  exact Nat.lt_succ_of_le (List.length_filter_le _ _)

theorem eraseDups_nodup {γ : Type} [BEq γ] [LawfulBEq γ] (l : List γ) : l.eraseDups.Nodup :=
  (eraseDups_sublist_nodup l).2

theorem mem_sortDedup {xs : List String} {a : String} : a ∈ sortDedup xs ↔ a ∈ xs := by
  unfold sortDedup
  rw [List.mem_eraseDups]
  exact (List.mergeSort_perm xs _).mem_iff

theorem sortDedup_nodup (xs : List String) : (sortDedup xs).Nodup := eraseDups_nodup _

theorem sortDedup_pairwise_lt (xs : List String) : (sortDedup xs).Pairwise (· < ·) :=
  pairwise_lt_of_le_of_nodup
    (((List.pairwise_mergeSort strLe_trans strLe_total xs).imp of_decide_eq_true).sublist (eraseDups_sublist_nodup _).1)
    (sortDedup_nodup xs)

theorem sortDedup_eq_of {xs l : List String} (hl : l.Pairwise (· < ·)) (hm : ∀ a, a ∈ l ↔ a ∈ xs) :
    sortDedup xs = l :=
  eq_of_pairwise_lt_of_mem_iff (sortDedup_pairwise_lt xs) hl (fun a => by rw [mem_sortDedup, hm])

/-- the same with a decidable hypothesis, for concrete lists -/
theorem sortDedup_eq_of_forall {xs l : List String} (hl : l.Pairwise (· < ·))
    (hm : (∀ a ∈ l, a ∈ xs) ∧ ∀ a ∈ xs, a ∈ l) : sortDedup xs = l :=
  sortDedup_eq_of hl fun a => ⟨hm.1 a, hm.2 a⟩

theorem sortDedup_congr {l l' : List String} (h : ∀ a, a ∈ l ↔ a ∈ l') : sortDedup l = sortDedup l' :=
  sortDedup_eq_of (sortDedup_pairwise_lt l') fun a => by rw [mem_sortDedup, h]

section Assoc
variable {κ β : Type} [BEq κ] [LawfulBEq κ]

omit [BEq κ] [LawfulBEq κ] in
theorem eq_of_nodup_keys {l : List (κ × β)} (hnd : (l.map (·.1)).Nodup) {a : κ} {x y : β}
    (hx : (a, x) ∈ l) (hy : (a, y) ∈ l) : x = y :=
  (Prod.mk.inj (List.inj_on_of_nodup_map hnd hx hy rfl)).2

theorem any_key_iff (d : List (κ × β)) (k : κ) :
    (d.any fun x => x.1 == k) = true ↔ k ∈ d.map (·.1) := by
  simp only [List.any_eq_true, beq_iff_eq, List.mem_map]

theorem not_any_key_iff (d : List (κ × β)) (k : κ) :
    (!d.any fun x => x.1 == k) = true ↔ k ∉ d.map (·.1) := by
  rw [Bool.not_eq_true', ← Bool.not_eq_true, any_key_iff]

theorem lookup_eq_none_iff_not_mem_keys (d : List (κ × β)) (k : κ) :
    d.lookup k = none ↔ k ∉ d.map (·.1) := by
  rw [List.lookup_eq_none_iff, List.mem_map]
  exact ⟨fun h ⟨p, hp, e⟩ => bne_iff_ne.mp (h p hp) e.symm, fun h p hp => bne_iff_ne.mpr fun e => h ⟨p, hp, e.symm⟩⟩

theorem mem_of_lookup_eq_some {d : List (κ × β)} {k : κ} {v : β} (h : d.lookup k = some v) :
    (k, v) ∈ d := by
  obtain ⟨l₁, l₂, rfl, -⟩ := List.lookup_eq_some_iff.mp h
  exact List.mem_append_right _ List.mem_cons_self

theorem lookup_eq_some_of_mem {d : List (κ × β)} (hd : (d.map (·.1)).Nodup) {k : κ} {v : β}
    (h : (k, v) ∈ d) : d.lookup k = some v := by
  cases hl : d.lookup k with
  | none => exact absurd (List.mem_map_of_mem (f := (·.1)) h) ((lookup_eq_none_iff_not_mem_keys d k).mp hl)
  | some v' => rw [eq_of_nodup_keys hd (mem_of_lookup_eq_some hl) h]

theorem lookup_isSome_of_mem_keys {d : List (κ × β)} {k : κ} (h : k ∈ d.map (·.1)) :
    ∃ v, d.lookup k = some v := by
  cases hl : d.lookup k with
  | none => exact absurd h ((lookup_eq_none_iff_not_mem_keys d k).mp hl)
  | some v => exact ⟨v, rfl⟩

/-- `lookup` is `find?` on the keys: the facts about keyed lists (`ListAux`) apply to dictionaries -/
theorem lookup_eq_find? (l : List (κ × β)) (b : κ) :
    l.lookup b = (l.find? fun x => x.1 == b).map (·.2) := by
  induction l with
  | nil => rfl
  | cons x xs ih =>
    rw [List.lookup_cons, List.find?_cons, BEq.comm (a := b)]
    cases x.1 == b
    · exact ih
    · rfl

theorem lookup_perm {d d' : List (κ × β)} (hp : d.Perm d') (hk : (d.map (·.1)).Nodup) (k : κ) :
    d.lookup k = d'.lookup k := by
  cases h : d'.lookup k with
  | none =>
    exact (lookup_eq_none_iff_not_mem_keys d k).mpr fun hm => (lookup_eq_none_iff_not_mem_keys d' k).mp h ((hp.map _).mem_iff.mp hm)
  | some v => exact lookup_eq_some_of_mem hk (hp.mem_iff.mpr (mem_of_lookup_eq_some h))

theorem lookup_filter_key (p : κ → Bool) (l : List (κ × β)) (b : κ) :
    (l.filter fun x => p x.1).lookup b = if p b then l.lookup b else none := by
  induction l with
  | nil => simp
  | cons x xs ih =>
    obtain ⟨k, v⟩ := x
    rw [List.filter_cons]
    by_cases hb : b = k
    · subst hb; cases hp : p b <;> simp [hp, ih]
    · have : (b == k) = false := by simpa using hb
      cases hp : p k <;> simp [List.lookup_cons, this, ih]

theorem lookup_map_set [DecidableEq κ] (l : List (κ × β)) (a b : κ) (v : β) :
    (l.map fun x => if x.1 == a then (a, v) else x).lookup b =
      if b = a then (l.lookup a).map (fun _ => v) else l.lookup b := by
  rw [lookup_eq_find?, lookup_eq_find?, lookup_eq_find?]
  by_cases hb : b = a
  · subst hb
    rw [if_pos rfl, find?_upd_self (fun x : κ × β => x.1) (fun _ => (b, v)) b (fun _ _ => rfl), Option.map_map,
      Option.map_map]
    rfl
  · rw [if_neg hb, find?_upd_ne (fun x : κ × β => x.1) (fun _ => (a, v)) a (fun _ _ => rfl) hb]

end Assoc

section Overlay
variable {β : Type}

theorem dictOverlay_keys (d1 d2 : List (String × β)) :
    (dictOverlay d1 d2).map (·.1) =
      d1.map (·.1) ++ (d2.map (·.1)).filter (fun k => decide (k ∉ d1.map (·.1))) := by
  unfold dictOverlay
  rw [List.map_append, List.map_map, List.filter_map]
  refine congrArg₂ _ (List.map_congr_left fun _ _ => rfl) (congrArg _ (List.filter_congr fun x _ => ?_))
  exact Bool.eq_iff_iff.mpr (by rw [Function.comp, decide_eq_true_iff]; exact not_any_key_iff d1 x.1)

theorem mem_dictOverlay_keys {d1 d2 : List (String × β)} {k : String} :
    k ∈ (dictOverlay d1 d2).map (·.1) ↔ k ∈ d1.map (·.1) ∨ k ∈ d2.map (·.1) := by
  rw [dictOverlay_keys, List.mem_append, List.mem_filter, decide_eq_true_eq]
  exact ⟨fun h => h.elim Or.inl fun h => Or.inr h.1,
    fun h => (Decidable.em (k ∈ d1.map (·.1))).elim Or.inl fun hn => h.elim Or.inl fun hb => Or.inr ⟨hb, hn⟩⟩

theorem mem_dictOverlay {d1 d2 : List (String × β)} {a : String} {w : β} :
    (a, w) ∈ dictOverlay d1 d2 ↔
      (∃ v, (a, v) ∈ d1 ∧ w = (d2.lookup a).getD v) ∨ ((a, w) ∈ d2 ∧ a ∉ d1.map (·.1)) := by
  unfold dictOverlay
  rw [List.mem_append, List.mem_filter, List.mem_map]
  show (∃ x ∈ d1, (x.1, (d2.lookup x.1).getD x.2) = (a, w)) ∨ (a, w) ∈ d2 ∧ (!d1.any fun x => x.1 == a) = true ↔ _
  rw [not_any_key_iff]
  constructor
  · rintro (⟨⟨k, v⟩, hkv, e⟩ | h)
    · cases e; exact Or.inl ⟨v, hkv, rfl⟩
    · exact Or.inr h
  · rintro (⟨v, hv, rfl⟩ | h)
    exacts [Or.inl ⟨(a, v), hv, rfl⟩, Or.inr h]

theorem dictOverlay_keys_nodup {d1 d2 : List (String × β)} (h1 : (d1.map (·.1)).Nodup)
    (h2 : (d2.map (·.1)).Nodup) : ((dictOverlay d1 d2).map (·.1)).Nodup := by
  rw [dictOverlay_keys, List.nodup_append]
  refine ⟨h1, h2.sublist List.filter_sublist, ?_⟩
  intro a ha b hb
  rw [List.mem_filter] at hb
  rintro rfl
  exact (of_decide_eq_true hb.2) ha

end Overlay

section SortByKey
variable {β γ : Type}

theorem sortByKey_perm (l : List (String × β)) : (sortByKey l).Perm l := List.mergeSort_perm _ _

@[simp] theorem mem_sortByKey {x : String × β} {l : List (String × β)} : x ∈ sortByKey l ↔ x ∈ l :=
  List.mem_mergeSort

@[simp] theorem length_sortByKey (l : List (String × β)) : (sortByKey l).length = l.length :=
  List.length_mergeSort l

theorem sortByKey_pairwise (l : List (String × β)) : (sortByKey l).Pairwise (fun a b => a.1 ≤ b.1) :=
  (List.pairwise_mergeSort keyLe_trans keyLe_total l).imp of_decide_eq_true

theorem sortByKey_keys_perm (l : List (String × β)) :
    ((sortByKey l).map (·.1)).Perm (l.map (·.1)) := (sortByKey_perm l).map _

theorem sortByKey_keys_sorted (l : List (String × β)) :
    ((sortByKey l).map (·.1)).Pairwise (· ≤ ·) := by
  rw [List.pairwise_map]; exact sortByKey_pairwise l

theorem sortByKey_keys_pairwise_lt {l : List (String × β)} (h : (l.map (·.1)).Nodup) :
    ((sortByKey l).map (·.1)).Pairwise (· < ·) :=
  pairwise_lt_of_le_of_nodup (sortByKey_keys_sorted l) ((sortByKey_keys_perm l).nodup_iff.mpr h)

theorem sortByKey_keys_eq_sortDedup {l : List (String × β)} (h : (l.map (·.1)).Nodup) :
    (sortByKey l).map (·.1) = sortDedup (l.map (·.1)) :=
  (sortDedup_eq_of (sortByKey_keys_pairwise_lt h) (fun _ => (sortByKey_keys_perm l).mem_iff)).symm

theorem sortByKey_map (g : String × β → String × γ) (hg : ∀ x, (g x).1 = x.1) (l : List (String × β)) :
    sortByKey (l.map g) = (sortByKey l).map g := by
  unfold sortByKey
  exact (List.map_mergeSort (fun a _ b _ => by rw [hg a, hg b])).symm

/-- `sortByKey l` is the rearrangement of `l` whose keys ascend strictly, if there is one (for a concrete
dictionary both hypotheses are decidable) -/
theorem sortByKey_eq_of_perm_sorted {l l' : List (String × β)} (hp : l'.Perm l)
    (hs : (l'.map (·.1)).Pairwise (· < ·)) : sortByKey l = l' := by
  have hnd : (l'.map (·.1)).Nodup := nodup_of_pairwise_lt hs
  refine ((sortByKey_perm l).trans hp.symm).eq_of_pairwise (le := fun a b => a.1 ≤ b.1) ?_
    (sortByKey_pairwise l) ?_
  · intro a b ha hb hab hba
    exact List.inj_on_of_nodup_map hnd (hp.mem_iff.mpr (mem_sortByKey.mp ha)) hb (String.le_antisymm hab hba)
  · rw [List.pairwise_map] at hs
    exact hs.imp fun h => str_le_of_lt h

theorem sortByKey_of_pairwise_lt {l : List (String × β)} (h : (l.map (·.1)).Pairwise (· < ·)) :
    sortByKey l = l := sortByKey_eq_of_perm_sorted (.refl l) h

end SortByKey

end Qs
