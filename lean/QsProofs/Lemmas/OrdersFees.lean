import QsProofs.Lemmas.Orders
import QsProofs.Lemmas.BrokerObs
import QsProofs.Lemmas.FeeModel

/-!
# The cash debit of an accepted fill (C05): `call_cashView_eq` read at a transaction
-/

namespace Qs

section
variable {α : Type} [Field α] [LinearOrder α] [IsStrictOrderedRing α] [FloorRing α] [NumOps α] [LawfulNumOps α]

theorem applyTxn_cash (b : Broker α) (hwf : WF b) (pid : String) (t : Txn α) (h : (b.applyTxn pid t).2 = none) :
    (b.applyTxn pid t).1.entries.map (fun e => (e.pf.id, e.pf.cash))
      = b.entries.map (fun e => (e.pf.id,
          if e.pf.id = pid then e.pf.cash - (t.price * (t.qty : α) + t.commission) else e.pf.cash)) ∧
    (b.applyTxn pid t).1.master = b.master := by
  rw [applyTxn_eq_call] at h ⊢
  have hc := call_cashView_eq hwf pid (.transact t) b.master
  rw [h] at hc
  refine ⟨(congrArg Prod.snd hc).trans ?_, congrArg Prod.fst hc⟩
  rw [show (cashView b).2 = b.entries.map (fun e => (e.pf.id, e.pf.cash)) from rfl, List.map_map]
  refine List.map_congr_left fun e _ => ?_
  show (if e.pf.id = pid then (e.pf.id, e.pf.cash + -(t.price * (t.qty : α) + t.commission)) else (e.pf.id, e.pf.cash)) = _
  split <;> simp only [sub_eq_add_neg]

theorem applyTxn_cashOf (b : Broker α) (hwf : WF b) (pid : String) (t : Txn α) (h : (b.applyTxn pid t).2 = none)
    (p : String) :
    (b.applyTxn pid t).1.cashOf p
      = if p = pid then (b.cashOf p).map (fun c => c - (t.price * (t.qty : α) + t.commission)) else b.cashOf p := by
  have key := fun (c : Broker α) (g : PfEntry α → α) => find?_map_field c g (·.2) p
  rw [Broker.cashOf, ← key, (applyTxn_cash b hwf pid t h).1, key]
  unfold Broker.cashOf
  rcases hf : b.find? p with _ | e
  · simp
  · have hid : e.pf.id = p := find?_id hf
    simp only [Option.map_some, hid]
    split <;> rfl

end
end Qs
