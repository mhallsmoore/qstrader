import QsProofs.Lemmas.Market
import QsProofs.Lemmas.Pcm
import QsProofs.Lemmas.Signals
import QsProofs.Lemmas.BrokerBasic
import QsProofs.Lemmas.SessionStep

/-!
# C18: hidden inputs do not influence the observable result

Enumeration order: `Signal.append` is a function of the buffer lookup and appends to different assets commute, so
`feed` on permuted enumerations gives the same observable buffers (the sizers' side is `dwNormalise_perm`,
`lsNormalise_perm` in `Lemmas/Sizer`).  Order identifiers: `eraseIds` commutes with every broker operation (one
equation `Prod.map eraseIds id (op b x) = op (eraseIds b) (h x)` each), hence every operation respects its kernel;
a lemma named `…_sim` here says so for two brokers equal up to ids (not the `_sim` of the `Refinement*` files).  The transactions are
never unfolded: all that is used is that they do not read the `orderId` of the `Txn` they are applied to.
-/

set_option linter.unusedSectionVars false

namespace Qs
namespace Det

/-- two outcomes with related states and the same error are both `(_, none)` or both `(_, some x)`: for the loops that
continue by a `match` on such a pair (for the stages of `Session.step` the same argument is `Sess.andThen_rel`) -/
theorem res_cases {σ σ' ε : Type} (R : σ → σ' → Prop) {r : σ × Option ε} {r' : σ' × Option ε}
    (h : R r.1 r'.1 ∧ r.2 = r'.2) :
    (∃ s s', r = (s, none) ∧ r' = (s', none) ∧ R s s') ∨
      (∃ s s' x, r = (s, some x) ∧ r' = (s', some x) ∧ R s s') := by
  obtain ⟨s, _ | x⟩ := r <;> obtain ⟨s', _ | x'⟩ := r' <;> obtain ⟨h1, h2⟩ := h <;> cases h2
  · exact Or.inl ⟨s, s', rfl, rfl, h1⟩
  · exact Or.inr ⟨s, s', x, rfl, rfl, h1⟩

section Field
variable {α : Type} [Field α] [LinearOrder α] [IsStrictOrderedRing α] [FloorRing α] [NumOps α] [LawfulNumOps α]

/-- the observable content of a signal's buffer store: the configured lookbacks and the lookup function -/
def BufEq (s s' : Signal α) : Prop :=
  s.lookbacks = s'.lookbacks ∧ ∀ a l, s.findBuffer a l = s'.findBuffer a l

theorem BufEq.symm {s s' : Signal α} (h : BufEq s s') : BufEq s' s := ⟨h.1.symm, fun a l => (h.2 a l).symm⟩
theorem BufEq.trans {s s' s'' : Signal α} (h : BufEq s s') (h' : BufEq s' s'') : BufEq s s'' :=
  ⟨h.1.trans h'.1, fun a l => (h.2 a l).trans (h'.2 a l)⟩

/-- the new buffers of the appended asset depend only on its own old buffers and the lookbacks -/
theorem append_findBuffer_local {s s' : Signal α} (a : String) (p : α) (hL : s.lookbacks = s'.lookbacks)
    (hf : ∀ l, s.findBuffer a l = s'.findBuffer a l) (l : Nat) :
    (s.append a p).1.findBuffer a l = (s'.append a p).1.findBuffer a l := by
  have hacc := Sig.Accepts_congr hL p
  by_cases h : Sig.Accepts s p
  · -- both lookups are `pushStep` of a lookup in the old buffers, extended by the same empty ones
    rw [Sig.findBuffer_append s a a p l h, Sig.findBuffer_append s' a a p l (hacc.mp h), ← hL]
    congr 1
    unfold Sig.appendBufs
    rw [← hf, ← hL]
    split
    · exact hf l
    · rw [List.find?_append, List.find?_append]
      exact congrArg (fun o : Option (Buffer α) => o.or _) (hf l)
  · rw [Sig.append_of_not s a p h, Sig.append_of_not s' a p (mt hacc.mpr h)]
    exact hf l

theorem append_snd_congr {s s' : Signal α} (a : String) (p : α) (hL : s.lookbacks = s'.lookbacks) :
    (s.append a p).2 = (s'.append a p).2 := by
  have hacc := Sig.Accepts_congr hL p
  rw [Sig.append_def, Sig.append_def]
  by_cases h : Sig.Accepts s p
  · rw [if_pos h, if_pos (hacc.mp h)]
  · rw [if_neg h, if_neg (mt hacc.mpr h)]

theorem append_congr {s s' : Signal α} (h : BufEq s s') (a : String) (p : α) :
    BufEq (s.append a p).1 (s'.append a p).1 := by
  refine ⟨by rw [Sig.append_lookbacks, Sig.append_lookbacks]; exact h.1, ?_⟩
  intro b l
  by_cases hb : b = a
  · subst hb
    exact append_findBuffer_local b p h.1 (fun l => h.2 b l) l
  · rw [Sig.findBuffer_append_ne s a b p l hb, Sig.findBuffer_append_ne s' a b p l hb]
    exact h.2 b l

theorem append_comm (s : Signal α) {a b : String} (hab : a ≠ b) (p q : α) :
    BufEq ((s.append a p).1.append b q).1 ((s.append b q).1.append a p).1 := by
  refine ⟨by simp only [Sig.append_lookbacks], ?_⟩
  intro c l
  by_cases hca : c = a
  · subst hca
    rw [Sig.findBuffer_append_ne _ b c q l hab]
    exact append_findBuffer_local c p (by rw [Sig.append_lookbacks])
      (fun l => (Sig.findBuffer_append_ne s b c q l hab).symm) l
  · by_cases hcb : c = b
    · subst hcb
      rw [Sig.findBuffer_append_ne _ a c p l hca]
      exact append_findBuffer_local c q (by rw [Sig.append_lookbacks])
        (fun l => Sig.findBuffer_append_ne s a c p l hca) l
    · rw [Sig.findBuffer_append_ne _ b c q l hcb, Sig.findBuffer_append_ne _ a c p l hca,
        Sig.findBuffer_append_ne _ a c p l hca, Sig.findBuffer_append_ne _ b c q l hcb]

theorem appendAll_congr {s s' : Signal α} (h : BufEq s s') (ops : List (String × α)) :
    BufEq (Sig.appendAll s ops) (Sig.appendAll s' ops) := by
  induction ops generalizing s s' with
  | nil => exact h
  | cons op ops ih =>
    rw [Sig.appendAll_cons, Sig.appendAll_cons]
    exact ih (append_congr h op.1 op.2)

theorem appendAll_perm (s : Signal α) {ops ops' : List (String × α)} (hp : ops.Perm ops')
    (hk : (ops.map (·.1)).Nodup) : BufEq (Sig.appendAll s ops) (Sig.appendAll s ops') := by
  induction hp generalizing s with
  | nil => exact ⟨rfl, fun _ _ => rfl⟩
  | cons x _ ih =>
    rw [Sig.appendAll_cons, Sig.appendAll_cons]
    exact ih _ (List.nodup_cons.mp hk).2
  | swap x y l =>
    simp only [Sig.appendAll_cons]
    apply appendAll_congr
    apply append_comm
    intro e
    simp only [List.map_cons, List.nodup_cons, List.mem_cons] at hk
    exact hk.1 (Or.inl e)
  | trans h1 _ ih1 ih2 =>
    exact (ih1 s hk).trans (ih2 s ((h1.map _).nodup_iff.mp hk))

def updateAssetsWith (s : Signal α) (extra : List String) : Signal α :=
  { s with assets := s.assets ++ extra }

theorem updateAssets_eq_with (s : Signal α) (uni : List String) :
    s.updateAssets uni = updateAssetsWith s ((uni.filter fun a => !s.assets.contains a).eraseDups) := rfl

/-- feeding (positive) prices to `pre ++ extra` resp. `pre ++ extra'` (the same assets in another order) from two
signals with the same observable buffers: the buffers and the outcome agree -/
theorem feed_perm (mid : String → α) {s s' : Signal α} (hs : BufEq s s') (pre : List String)
    {extra extra' : List String} (hp : extra.Perm extra') (hnd : extra.Nodup)
    (hpos : ∀ a ∈ pre ++ extra, 0 < mid a) :
    BufEq (Signal.feed mid s (pre ++ extra)).1 (Signal.feed mid s' (pre ++ extra')).1 ∧
    (Signal.feed mid s (pre ++ extra)).2 = (Signal.feed mid s' (pre ++ extra')).2 := by
  have hpos' : ∀ a ∈ pre ++ extra', 0 < mid a := fun a ha => hpos a (by
    rw [List.mem_append] at ha ⊢; exact ha.imp_right hp.mem_iff.mpr)
  by_cases hL : s.lookbacks = []
  · rw [Sig.feed_no_lookbacks mid _ _ hL, Sig.feed_no_lookbacks mid _ _ (hs.1 ▸ hL)]
    refine ⟨hs, ?_⟩
    have : extra = [] ↔ extra' = [] := ⟨fun h => (h ▸ hp).nil_eq.symm, fun h => (h ▸ hp.symm).nil_eq.symm⟩
    simp only [List.append_eq_nil_iff, this]
  · rw [Sig.feed_eq mid s _ hL hpos, Sig.feed_eq mid s' _ (hs.1 ▸ hL) hpos']
    refine ⟨?_, rfl⟩
    simp only [List.map_append, Sig.appendAll_append]
    exact (appendAll_perm _ (hp.map _) (by rw [List.map_map]; simpa [Function.comp_def] using hnd)).trans
      (appendAll_congr (appendAll_congr hs _) _)

/-- every duplicate-free enumeration of `set(universe) - set(tracked)` is a permutation of the model's -/
theorem enum_perm (s : Signal α) (uni extra : List String) (hnd : extra.Nodup)
    (hm : ∀ a, a ∈ extra ↔ a ∈ uni ∧ a ∉ s.assets) :
    extra.Perm ((uni.filter fun a => !s.assets.contains a).eraseDups) := by
  rw [List.perm_ext_iff_of_nodup hnd (eraseDups_nodup _)]
  intro a
  rw [hm a, List.mem_eraseDups, List.mem_filter]
  simp

def updateWith (c : SignalsCollection α) (enum : Signal α → List String) (mid : String → α) :
    SignalsCollection α × Option Err :=
  match feedAll mid (c.signals.map fun s => updateAssetsWith s (enum s)) with
  | (sigs, some e) => ({ c with signals := sigs }, some e)
  | (sigs, none) => ({ signals := sigs, warmup := c.warmup + 1 }, none)

theorem update_eq_updateWith (c : SignalsCollection α) (uni : List String) (mid : String → α) :
    c.update uni mid = updateWith c (fun s => (uni.filter fun a => !s.assets.contains a).eraseDups) mid := rfl

/-- two signals with the same observable content: buffers, lookbacks, kind, tracked set -/
def SigEq (r r' : Signal α) : Prop :=
  BufEq r r' ∧ r.kind = r'.kind ∧ ∀ a, a ∈ r.assets ↔ a ∈ r'.assets

theorem sigEq_with (s : Signal α) {extra extra' : List String} (hp : extra.Perm extra') :
    SigEq (updateAssetsWith s extra) (updateAssetsWith s extra') :=
  ⟨⟨rfl, fun _ _ => rfl⟩, rfl, fun a => by simp only [updateAssetsWith, List.mem_append, hp.mem_iff]⟩

/-- one signal, one day: tracking the new assets in the order `extra` resp. `extra'` and feeding the day's prices
gives signals with the same observable content and the same outcome -/
theorem feedWith_sigEq (mid : String → α) (s : Signal α) {extra extra' : List String}
    (hp : extra.Perm extra') (hnd : extra.Nodup) (hpos : ∀ a ∈ s.assets ++ extra, 0 < mid a) :
    SigEq (Signal.feed mid (updateAssetsWith s extra) (updateAssetsWith s extra).assets).1
      (Signal.feed mid (updateAssetsWith s extra') (updateAssetsWith s extra').assets).1 ∧
    (Signal.feed mid (updateAssetsWith s extra) (updateAssetsWith s extra).assets).2 =
      (Signal.feed mid (updateAssetsWith s extra') (updateAssetsWith s extra').assets).2 := by
  obtain ⟨h1, h2⟩ := feed_perm mid (s := updateAssetsWith s extra) (s' := updateAssetsWith s extra')
    ⟨rfl, fun _ _ => rfl⟩ s.assets hp hnd hpos
  exact ⟨⟨h1, by rw [(Sig.feed_cfg mid _ _).1, (Sig.feed_cfg mid _ _).1]; rfl,
    fun a => by rw [(Sig.feed_cfg mid _ _).2.2, (Sig.feed_cfg mid _ _).2.2]; exact (sigEq_with s hp).2.2 a⟩, h2⟩

theorem feedAll_with_perm (mid : String → α) (enum enum' : Signal α → List String) (sigs : List (Signal α))
    (H : ∀ s ∈ sigs, (enum s).Perm (enum' s) ∧ (enum s).Nodup ∧ ∀ a ∈ s.assets ++ enum s, 0 < mid a) :
    List.Forall₂ SigEq (feedAll mid (sigs.map fun s => updateAssetsWith s (enum s))).1
      (feedAll mid (sigs.map fun s => updateAssetsWith s (enum' s))).1 ∧
    (feedAll mid (sigs.map fun s => updateAssetsWith s (enum s))).2 =
      (feedAll mid (sigs.map fun s => updateAssetsWith s (enum' s))).2 := by
  induction sigs with
  | nil => exact ⟨List.Forall₂.nil, rfl⟩
  | cons s rest ih =>
    obtain ⟨hp, hnd, hpos⟩ := H s (by simp)
    have H' : ∀ s ∈ rest, (enum s).Perm (enum' s) ∧ (enum s).Nodup ∧ ∀ a ∈ s.assets ++ enum s, 0 < mid a :=
      fun t ht => H t (List.mem_cons_of_mem _ ht)
    rw [List.map_cons, List.map_cons, feedAll, feedAll]
    rcases res_cases SigEq (feedWith_sigEq mid s hp hnd hpos) with ⟨r, r', hr, hr', h⟩ | ⟨r, r', x, hr, hr', h⟩ <;>
      simp only [hr, hr']
    · exact ⟨List.Forall₂.cons h (ih H').1, (ih H').2⟩
    · refine ⟨List.Forall₂.cons h ?_, trivial⟩
      rw [List.forall₂_map_left_iff, List.forall₂_map_right_iff, List.forall₂_same]
      exact fun t ht => sigEq_with t (H' t ht).1

end Field

/-! ## order identifiers never influence accounting -/

section Ids
variable {α : Type} [Add α] [Sub α] [Mul α] [Div α] [Neg α] [NumOps α]

def eraseId (o : Order) : Order := { o with id := 0 }
def eraseTxn (t : Txn α) : Txn α := { t with orderId := 0 }
def eraseEntry (e : PfEntry α) : PfEntry α := { e with queue := e.queue.map eraseId }
def eraseIds (b : Broker α) : Broker α :=
  { b with entries := b.entries.map eraseEntry, fillLog := b.fillLog.map fun x => (x.1, eraseTxn x.2) }

theorem eraseId_with (o : Order) (k : Nat) : eraseId { o with id := k } = eraseId o := rfl

theorem find?_eraseIds (b : Broker α) (pid : String) : (eraseIds b).find? pid = (b.find? pid).map eraseEntry := by
  unfold Broker.find? eraseIds
  simp only
  rw [List.find?_map]
  rfl

theorem setPf_eraseIds (b : Broker α) (p : Portfolio α) : eraseIds (b.setPf p) = (eraseIds b).setPf p := by
  unfold Broker.setPf eraseIds
  simp only [List.map_map]
  congr 1
  apply List.map_congr_left
  intro x _
  by_cases hc : x.pf.id = p.id <;> simp [eraseEntry, hc]

theorem setEntry_eraseIds (b : Broker α) (e : PfEntry α) :
    eraseIds (b.setEntry e) = (eraseIds b).setEntry (eraseEntry e) := by
  unfold Broker.setEntry eraseIds
  simp only [List.map_map]
  congr 1
  apply List.map_congr_left
  intro x _
  by_cases hc : x.pf.id = e.pf.id <;> simp [eraseEntry, hc]

abbrev eraseR (r : Broker α × Option Err) : Broker α × Option Err := Prod.map eraseIds id r

theorem eraseR_inj_iff {r r' : Broker α × Option Err} :
    eraseR r = eraseR r' ↔ eraseIds r.1 = eraseIds r'.1 ∧ r.2 = r'.2 :=
  Prod.ext_iff

/-- an operation that commutes with `eraseIds` respects its kernel -/
theorem sim_of_comm {f f' : Broker α → Broker α × Option Err} (H : ∀ b, eraseR (f b) = f' (eraseIds b))
    {b b' : Broker α} (h : eraseIds b = eraseIds b') :
    eraseIds (f b).1 = eraseIds (f b').1 ∧ (f b).2 = (f b').2 :=
  eraseR_inj_iff.mp ((H b).trans ((congrArg f' h).trans (H b').symm))

theorem submitOrder_eraseIds (b : Broker α) (pid : String) (o : Order) :
    eraseR (b.submitOrder pid o) = (eraseIds b).submitOrder pid (eraseId o) := by
  cases hf : b.find? pid with
  | none => rw [submitOrder_none hf, submitOrder_none (by rw [find?_eraseIds, hf]; rfl)]; rfl
  | some e =>
    rw [submitOrder_some hf, submitOrder_some (by rw [find?_eraseIds, hf]; rfl)]
    simp only [eraseR, Prod.map, id, setEntry_eraseIds]
    simp only [eraseEntry, List.map_append, List.map_cons, List.map_nil]

theorem makeTxn_eraseIds (b : Broker α) (q : Quotes α) (o : Order) :
    (eraseIds b).makeTxn q (eraseId o) = (b.makeTxn q o).map eraseTxn := by
  rw [makeTxn_eq, makeTxn_eq]
  show (match q o.asset with | none => _ | some (bid, ask) => _) = _
  cases q o.asset <;> rfl

theorem applyTxn_eraseIds (b : Broker α) (pid : String) (t : Txn α) :
    eraseR (b.applyTxn pid t) = (eraseIds b).applyTxn pid (eraseTxn t) := by
  unfold Broker.applyTxn
  rw [find?_eraseIds]
  cases b.find? pid with
  | none => rfl
  | some e =>
    -- `transactAsset` does not read `orderId`, and `eraseEntry` keeps `pf`
    show eraseR (match e.pf.transactAsset t with
      | (pf, some err) => (b.setPf pf, some err)
      | (pf, none) => ({ (b.setPf pf) with fillLog := b.fillLog ++ [(pid, t)] }, none)) =
      (match e.pf.transactAsset t with
      | (pf, some err) => ((eraseIds b).setPf pf, some err)
      | (pf, none) => ({ ((eraseIds b).setPf pf) with fillLog := (eraseIds b).fillLog ++ [(pid, eraseTxn t)] }, none))
    rcases e.pf.transactAsset t with ⟨pf, _ | err⟩
    · simp only [eraseR, Prod.map, id, ← setPf_eraseIds]
      simp only [eraseIds, List.map_append, List.map_cons, List.map_nil, Broker.setPf]
    · simp only [eraseR, Prod.map, id, setPf_eraseIds]

theorem executeOrder_eraseIds (b : Broker α) (q : Quotes α) (pid : String) (o : Order) :
    eraseR (b.executeOrder q pid o) = (eraseIds b).executeOrder q pid (eraseId o) := by
  unfold Broker.executeOrder
  rw [makeTxn_eraseIds]
  cases b.makeTxn q o with
  | error e => rfl
  | ok t => exact applyTxn_eraseIds b pid t

theorem applyMark_eraseIds (b : Broker α) (pid a : String) (p : α) (t : Int) :
    eraseR (b.applyMark pid a p t) = (eraseIds b).applyMark pid a p t := by
  unfold Broker.applyMark
  rw [find?_eraseIds]
  cases b.find? pid with
  | none => rfl
  | some e => simp only [Option.map_some, eraseR, Prod.map, id, setPf_eraseIds]; rfl

theorem markTargets_eraseIds (b : Broker α) (q : Quotes α) : (eraseIds b).markTargets q = b.markTargets q := by
  unfold Broker.markTargets eraseIds
  simp only [List.flatMap_map]
  rfl

theorem drained_eraseIds (b : Broker α) :
    (eraseIds b).drained = b.drained.map fun x => (x.1, eraseId x.2) := by
  unfold Broker.drained eraseIds
  simp only [List.flatMap_map, List.map_flatMap, eraseEntry, List.map_map]
  rfl

theorem clearQueues_eraseIds (b : Broker α) : eraseIds b.clearQueues = (eraseIds b).clearQueues := by
  unfold Broker.clearQueues eraseIds
  simp only [List.map_map]
  rfl

theorem marked_eraseIds (b : Broker α) (t : Int) (q : Quotes α) :
    eraseR (b.marked t q) = (eraseIds b).marked t q := by
  unfold Broker.marked
  rw [show ({ eraseIds b with clock := t } : Broker α) = eraseIds { b with clock := t } from rfl, markTargets_eraseIds]
  have := runUntilErr_map eraseIds (h := id)
    (f := fun b (m : String × String × α) => b.applyMark m.1 m.2.1 m.2.2 t)
    (g := fun b (m : String × String × α) => b.applyMark m.1 m.2.1 m.2.2 t)
    (fun b m => applyMark_eraseIds b m.1 m.2.1 m.2.2 t) { b with clock := t }
    (Broker.markTargets { b with clock := t } q)
  rwa [List.map_id] at this

theorem update_eraseIds (b : Broker α) (t : Int) (q : Quotes α) :
    eraseR (b.update t q) = (eraseIds b).update t q := by
  rw [update_eq b, update_eq (eraseIds b), ← marked_eraseIds]
  rcases b.marked t q with ⟨b1, _ | e⟩
  · show eraseR (if isOpen t then _ else _) = if isOpen t then _ else _
    split
    · rw [drained_eraseIds, ← clearQueues_eraseIds, ← Qs.sellsFirst_map]
      exact runUntilErr_map eraseIds (fun b x => executeOrder_eraseIds b q x.1 x.2) _ _
    · rfl
  · rfl

theorem update_sim {b b' : Broker α} (h : eraseIds b = eraseIds b') (t : Int) (q : Quotes α) :
    eraseIds (b.update t q).1 = eraseIds (b'.update t q).1 ∧ (b.update t q).2 = (b'.update t q).2 :=
  sim_of_comm (f' := fun b => b.update t q) (fun b => update_eraseIds b t q) h

/-! ## the session loop is blind to order identifiers -/

def eraseIdsS (s : Session α) : Session α := { s with broker := eraseIds s.broker, nextId := 0 }

theorem eraseIdsS_eq_iff (s s' : Session α) :
    eraseIdsS s = eraseIdsS s' ↔
      eraseIds s.broker = eraseIds s'.broker ∧ s.signals = s'.signals ∧ s.allocations = s'.allocations ∧
        s.equity = s'.equity := by
  cases s; cases s'
  simp only [eraseIdsS, Session.mk.injEq, and_true]

theorem heldOf_eraseIds (b : Broker α) : heldOf (eraseIds b) = heldOf b := by
  unfold heldOf
  rw [find?_eraseIds]
  cases b.find? PORTFOLIO_ID <;> rfl

theorem equityOf_eraseIds (b : Broker α) : equityOf (eraseIds b) = equityOf b := by
  unfold equityOf
  rw [find?_eraseIds]
  cases b.find? PORTFOLIO_ID <;> rfl

theorem accountTotalEquity_eraseIds (b : Broker α) : (eraseIds b).accountTotalEquity = b.accountTotalEquity := by
  unfold Broker.accountTotalEquity eraseIds
  simp only [List.map_map]
  rfl

theorem fills_eraseIdsS (s : Session α) : (eraseIdsS s).fills = s.fills := by
  unfold Session.fills eraseIdsS eraseIds
  simp only [List.map_map]
  rfl

/-- an observation that does not see the ids agrees on brokers that are equal up to ids -/
theorem obs_sim {γ : Type} {g : Broker α → γ} (H : ∀ b, g (eraseIds b) = g b) {b b' : Broker α}
    (h : eraseIds b = eraseIds b') : g b = g b' := by
  rw [← H b, h, H]

theorem executeOrders_sim (px : Px α) (t : Int) {b b' : Broker α} (h : eraseIds b = eraseIds b') (n m : Nat)
    (os : List (String × Int)) :
    eraseIds (executeOrders px t b n os).1 = eraseIds (executeOrders px t b' m os).1 ∧
    (executeOrders px t b n os).2.2 = (executeOrders px t b' m os).2.2 := by
  induction os generalizing b b' n m with
  | nil => exact ⟨h, rfl⟩
  | cons o os ih =>
    obtain ⟨a, q⟩ := o
    rw [executeOrders, executeOrders]
    -- the two submitted orders differ in the id only
    have hsub :
        eraseIds (b.submitOrder PORTFOLIO_ID ⟨n, a, q⟩).1 = eraseIds (b'.submitOrder PORTFOLIO_ID ⟨m, a, q⟩).1 ∧
        (b.submitOrder PORTFOLIO_ID ⟨n, a, q⟩).2 = (b'.submitOrder PORTFOLIO_ID ⟨m, a, q⟩).2 :=
      eraseR_inj_iff.mp (by rw [submitOrder_eraseIds, submitOrder_eraseIds, h]; rfl)
    rcases res_cases (eraseIds · = eraseIds ·) hsub with ⟨b1, b1', hr, hr', h1⟩ | ⟨b1, b1', x, hr, hr', h1⟩ <;>
      rw [hr, hr']
    · rcases res_cases (eraseIds · = eraseIds ·) (update_sim h1 t (quotesAt px t)) with
        ⟨b2, b2', hu, hu', h2⟩ | ⟨b2, b2', x, hu, hu', h2⟩ <;> simp only [hu, hu']
      · exact ih h2 (n + 1) (m + 1)
      · exact ⟨h2, trivial⟩
    · exact ⟨h1, rfl⟩

/-- a stage of the loop body respects the kernel of `eraseIdsS` -/
def IdBlind (f : Session α → Session α × Option Err) : Prop :=
  ∀ s s', eraseIdsS s = eraseIdsS s' → eraseIdsS (f s).1 = eraseIdsS (f s').1 ∧ (f s).2 = (f s').2

theorem IdBlind.andThen {f : Session α → Session α × Option Err} (hf : IdBlind f) {r r' : Session α × Option Err}
    (hr : eraseIdsS r.1 = eraseIdsS r'.1 ∧ r.2 = r'.2) :
    eraseIdsS (Sess.andThen r f).1 = eraseIdsS (Sess.andThen r' f).1 ∧ (Sess.andThen r f).2 = (Sess.andThen r' f).2 :=
  Sess.andThen_rel (R := fun s s' => eraseIdsS s = eraseIdsS s') hr hf

theorem rebalanceAt_blind (cfg : SessionCfg α) (alpha : Alpha α) (px : Px α) (t : Int) :
    IdBlind (rebalanceAt cfg alpha px t) := by
  intro s s' h
  obtain ⟨hb, hsig, hal, heq⟩ := (eraseIdsS_eq_iff s s').mp h
  unfold rebalanceAt
  simp only [obs_sim heldOf_eraseIds hb, obs_sim equityOf_eraseIds hb, hsig]
  split
  · exact ⟨(eraseIdsS_eq_iff _ _).mpr ⟨hb, rfl, by rw [hal], heq⟩, rfl⟩
  · obtain ⟨h1, h2⟩ := executeOrders_sim px t hb s.nextId s'.nextId (rebalanceOrders ‹_› (heldOf s'.broker))
    exact ⟨(eraseIdsS_eq_iff _ _).mpr ⟨h1, rfl, by rw [hal], heq⟩, h2⟩

theorem sigStage_blind (cfg : SessionCfg α) (px : Px α) (ev : SimEvent) : IdBlind (Sess.sigStage cfg px ev) := by
  intro s s' h
  obtain ⟨hb, hsig, hal, heq⟩ := (eraseIdsS_eq_iff s s').mp h
  unfold Sess.sigStage
  rw [hsig]
  split
  · split
    · exact ⟨(eraseIdsS_eq_iff _ _).mpr ⟨hb, rfl, hal, heq⟩, rfl⟩
    · exact ⟨h, rfl⟩
  · exact ⟨h, rfl⟩

theorem rebStage_blind (cfg : SessionCfg α) (alpha : Alpha α) (px : Px α) (sched : List Int) (t : Int) :
    IdBlind (Sess.rebStage cfg alpha px sched t) := by
  intro s s' h
  cases hr : Sess.isReb cfg sched t
  · rw [Sess.rebStage_neg hr, Sess.rebStage_neg hr]; exact ⟨h, rfl⟩
  · rw [Sess.rebStage_pos hr, Sess.rebStage_pos hr]; exact rebalanceAt_blind cfg alpha px t s s' h

theorem eqStage_blind (cfg : SessionCfg α) (ev : SimEvent) : IdBlind (Sess.eqStage cfg ev) := by
  intro s s' h
  obtain ⟨hb, hsig, hal, heq⟩ := (eraseIdsS_eq_iff s s').mp h
  unfold Sess.eqStage
  split
  · refine ⟨?_, rfl⟩
    rw [eraseIdsS_eq_iff]
    simp only [obs_sim accountTotalEquity_eraseIds hb, heq]
    exact ⟨hb, hsig, hal, trivial⟩
  · exact ⟨h, rfl⟩

theorem updStage_blind (px : Px α) (ev : SimEvent) : IdBlind (Sess.updStage px ev) := by
  intro s s' h
  obtain ⟨hb, hsig, hal, heq⟩ := (eraseIdsS_eq_iff s s').mp h
  obtain ⟨h1, h2⟩ := update_sim hb ev.time (quotesAt px ev.time)
  exact ⟨(eraseIdsS_eq_iff _ _).mpr ⟨h1, hsig, hal, heq⟩, h2⟩

end Ids

end Det
end Qs
