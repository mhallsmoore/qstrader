import QsProofs.Lemmas.NumBasic
import QsProofs.Lemmas.AssocList
import QsModel.Signals
import Mathlib.Data.List.Basic
import Mathlib.Data.List.TakeWhile

/-!
# The trading signals (C16)

A signal keeps, per tracked asset and lookback `l`, a bounded deque; fed a stream it holds `lastN l` of the stream
(`window_gen`), and momentum / moving average / volatility are functions of that window.  The store of a `Signal` is
compared with the canonical one, `winBufs L T σ`: one buffer holding `lastN l (σ a)` per tracked asset and lookback
(`Store`; `Holds` is the invariant of a signal inside a `SignalsCollection`).  Each operation of the model has one
equation covering all its cases (`append_def`, `feed_def`, the `_none_iff` statements: it succeeds exactly when every
price it is fed is positive) and everything else about it is read off that equation.
-/

-- statements in a section keep all its carrier classes, used or not
set_option linter.unusedSectionVars false

namespace Qs
namespace Sig
open Num

section Window
variable {β : Type}

theorem lastN_append_lastN (k : Nat) (l m : List β) :
    lastN k (lastN k l ++ m) = lastN k (l ++ m) := by
  unfold lastN
  have h1 : l.drop (l.length - k) ++ m = (l ++ m).drop (l.length - k) := by
    rw [List.drop_append_of_le_length (by omega)]
  rw [h1, List.drop_drop]
  congr 1
  simp only [List.length_drop, List.length_append]
  omega

theorem lastN_nil (k : Nat) : lastN k ([] : List β) = [] := by simp [lastN]

theorem lastN_length (k : Nat) (l : List β) : (lastN k l).length = min k l.length := by
  simp only [lastN, List.length_drop]; omega

theorem lastN_of_length_le (k : Nat) (l : List β) (h : l.length ≤ k) : lastN k l = l := by
  simp [lastN, Nat.sub_eq_zero_of_le h]

theorem forall_lastN {P : β → Prop} (k : Nat) {l : List β} (h : ∀ x ∈ l, P x) : ∀ x ∈ lastN k l, P x :=
  fun x hx => h x (List.mem_of_mem_drop hx)

theorem lastN_suffix (k : Nat) (l : List β) : lastN k l <:+ l := List.drop_suffix _ _

theorem lastN_zero (l : List β) : lastN 0 l = [] := by simp [lastN]

theorem ne_nil_of_not_lt_two {l : List β} (h : ¬ l.length < 2) : l ≠ [] := by
  rintro rfl; simp at h

theorem dequePush_lastN (k : Nat) (l : List β) (x : β) :
    dequePush k (lastN k l) x = lastN k (l ++ [x]) :=
  lastN_append_lastN k l [x]

theorem window_gen (k : Nat) (xs pre : List β) :
    xs.foldl (dequePush k) (lastN k pre) = lastN k (pre ++ xs) := by
  induction xs generalizing pre with
  | nil => simp
  | cons x xs ih =>
    rw [List.foldl_cons, dequePush_lastN, ih (pre ++ [x])]
    simp

theorem window (k : Nat) (xs : List β) : xs.foldl (dequePush k) [] = lastN k xs := by
  have := window_gen k xs []
  simpa [lastN] using this

end Window

section Numeric
variable {α : Type} [Field α] [LinearOrder α] [IsStrictOrderedRing α] [FloorRing α] [NumOps α] [LawfulNumOps α]

theorem pctChanges_nil : pctChanges ([] : List α) = [] := rfl
theorem pctChanges_single (a : α) : pctChanges [a] = [] := rfl
theorem pctChanges_cons_cons (a b : α) (rest : List α) :
    pctChanges (a :: b :: rest) = (b / a - 1) :: pctChanges (b :: rest) := by
  simp [pctChanges]

/-- the simple returns pair every price with its successor; `List.zipWith` lemmas then do the index work -/
theorem pctChanges_eq_zipWith (w : List α) : pctChanges w = List.zipWith (fun a b => b / a - 1) w w.tail := by
  induction w with
  | nil => rfl
  | cons a t ih =>
    cases t with
    | nil => rfl
    | cons b rest => rw [pctChanges_cons_cons, ih]; rfl

theorem pctChanges_length (w : List α) : (pctChanges w).length = w.length - 1 := by
  rw [pctChanges_eq_zipWith, List.length_zipWith, List.length_tail]
  omega

theorem pctChanges_getElem? (w : List α) (i : Nat) (x y : α)
    (hx : w[i]? = some x) (hy : w[i + 1]? = some y) : (pctChanges w)[i]? = some (y / x - 1) := by
  rw [pctChanges_eq_zipWith, List.getElem?_zipWith, hx, List.getElem?_tail, hy]

theorem pctChanges_eq_nil_iff (w : List α) : pctChanges w = [] ↔ w.length < 2 := by
  rw [← List.length_eq_zero_iff, pctChanges_length]; omega

theorem pctChanges_scale (k : α) (hk : k ≠ 0) (w : List α) :
    pctChanges (w.map (k * ·)) = pctChanges w := by
  rw [pctChanges_eq_zipWith, pctChanges_eq_zipWith, ← List.map_tail, List.zipWith_map]
  congr 1
  funext a b
  rw [mul_div_mul_left _ _ hk]

theorem foldl_gross (rs : List α) (acc : α) :
    rs.foldl (fun acc r => acc * (one + r)) acc = acc * (rs.map (1 + ·)).prod := by
  induction rs generalizing acc with
  | nil => simp
  | cons r rs ih => rw [List.foldl_cons, ih]; simp [mul_assoc]

theorem cumReturn_eq (rs : List α) : cumReturn rs = (rs.map (1 + ·)).prod - 1 := by
  unfold cumReturn; rw [foldl_gross]; simp

/-- telescoping: the running products of the gross returns of a positive window, started at `acc`,
are the window rescaled to start at `acc` -/
theorem scanl_gross_pct (acc e : α) (es : List α) (hpos : ∀ x ∈ e :: es, 0 < x) :
    (pctChanges (e :: es)).scanl (fun acc r => acc * (one + r)) acc = (e :: es).map (fun x => acc / e * x) := by
  induction es generalizing acc e with
  | nil => simp [pctChanges, (hpos e (by simp)).ne']
  | cons b rest ih =>
    have he : e ≠ 0 := (hpos e (by simp)).ne'
    have hb : b ≠ 0 := (hpos b (by simp)).ne'
    rw [pctChanges_cons_cons, List.scanl_cons, ih _ b (fun x hx => hpos x (List.mem_cons_of_mem _ hx)),
      List.map_cons (a := e)]
    congr 1
    · exact (div_mul_cancel₀ acc he).symm
    · refine List.map_congr_left fun x _ => ?_
      rw [one_eq, add_sub_cancel, mul_div_assoc, div_div_cancel_left' hb, ← div_eq_mul_inv]

theorem prod_returns (a : α) (rest : List α) (hpos : ∀ x ∈ a :: rest, 0 < x) :
    ((pctChanges (a :: rest)).map (1 + ·)).prod = ((a :: rest).getLast (by simp)) / a := by
  have h := List.getLast_scanl (f := fun acc r => acc * (one + r)) (b := (1 : α))
    (l := pctChanges (a :: rest)) List.scanl_ne_nil
  rw [foldl_gross, one_mul] at h
  rw [← h]
  simp only [scanl_gross_pct 1 a rest hpos, List.getLast_map]
  ring

theorem meanOf_eq (l : List α) : meanOf l = l.sum / (l.length : α) := by
  unfold meanOf; rw [sumNaive_eq_sum]; simp

theorem popVar_eq (l : List α) :
    popVar l = (l.map fun x => (x - l.sum / (l.length : α)) ^ 2).sum / (l.length : α) := by
  unfold popVar
  simp only [meanOf_eq, List.length_map]
  congr 2
  apply List.map_congr_left
  intro x _
  ring

end Numeric

/-! ## The buffer store: lists of buffers, tracked assets, streams (no arithmetic) -/

section Lists
variable {α : Type}

/-- the canonical buffer store: for every tracked asset (in order) and every stored lookback one buffer
holding the last `l` items of the asset's stream -/
def winBufs (L : List Nat) (T : List String) (σ : String → List α) : List (Buffer α) :=
  T.flatMap fun a => L.map fun l => ({ asset := a, lookback := l, items := lastN l (σ a) } : Buffer α)

/-- the predicate `Signal.findBuffer` looks up with -/
abbrev hasKey (a : String) (l : Nat) : Buffer α → Bool := fun b => b.asset == a && b.lookback == l

theorem mem_winBufs {L : List Nat} {T : List String} {σ : String → List α} {b : Buffer α} :
    b ∈ winBufs L T σ ↔ ∃ a ∈ T, ∃ l ∈ L, b = { asset := a, lookback := l, items := lastN l (σ a) } := by
  simp only [winBufs, List.mem_flatMap, List.mem_map, eq_comm]

theorem find_winBufs (a : String) (l : Nat) (L : List Nat) (T : List String) (σ : String → List α) :
    (winBufs L T σ).find? (hasKey a l) =
      if a ∈ T ∧ l ∈ L then some { asset := a, lookback := l, items := lastN l (σ a) } else none := by
  rw [find?_of_unique (v := { asset := a, lookback := l, items := lastN l (σ a) })]
  · refine if_congr ⟨?_, fun ⟨ha, hl⟩ => ⟨_, mem_winBufs.mpr ⟨a, ha, l, hl, rfl⟩, by simp⟩⟩ rfl rfl
    rintro ⟨b, hb, hk⟩
    obtain ⟨a', ha', l', hl', rfl⟩ := mem_winBufs.mp hb
    simp only [Bool.and_eq_true, beq_iff_eq] at hk
    exact ⟨hk.1 ▸ ha', hk.2 ▸ hl'⟩
  · intro b hb hk
    obtain ⟨a', -, l', -, rfl⟩ := mem_winBufs.mp hb
    simp only [Bool.and_eq_true, beq_iff_eq] at hk
    rw [hk.1, hk.2]

theorem winBufs_append (L : List Nat) (T T' : List String) (σ : String → List α) :
    winBufs L (T ++ T') σ = winBufs L T σ ++ winBufs L T' σ := by
  simp [winBufs, List.flatMap_append]

/-- the per-buffer step of `Signal.append` -/
def pushStep (L : List Nat) (a : String) (p : α) (b : Buffer α) : Buffer α :=
  if b.asset == a && L.contains b.lookback then { b with items := dequePush b.lookback b.items p } else b

theorem map_pushStep_winBufs (L : List Nat) (a : String) (p : α) (T : List String) (σ : String → List α) :
    (winBufs L T σ).map (pushStep L a p) =
      winBufs L T (fun b => if b = a then σ a ++ [p] else σ b) := by
  unfold winBufs
  rw [List.map_flatMap]
  congr 1
  funext a'
  rw [List.map_map]
  refine List.map_congr_left fun l hl => ?_
  by_cases ha : a' = a
  · subst ha
    simp [pushStep, hl, dequePush_lastN]
  · simp [pushStep, ha]

/-- the tracked list after an append -/
def track (T : List String) (a : String) : List String := if a ∈ T then T else T ++ [a]

theorem mem_track (T : List String) (a b : String) : b ∈ track T a ↔ b ∈ T ∨ b = a := by
  unfold track
  split
  · rename_i h
    exact ⟨Or.inl, fun h' => h'.elim id fun e => e ▸ h⟩
  · simp

/-- the prices supplied for asset `a`, in order -/
def streamOf (a : String) (ops : List (String × α)) : List α :=
  (ops.filter fun op => op.1 == a).map (·.2)

def trackAll (T : List String) (ops : List (String × α)) : List String :=
  ops.foldl (fun T op => track T op.1) T

theorem streamOf_cons (a : String) (op : String × α) (ops : List (String × α)) :
    streamOf a (op :: ops) = if op.1 = a then op.2 :: streamOf a ops else streamOf a ops := by
  unfold streamOf
  rw [List.filter_cons]
  by_cases h : op.1 = a <;> simp [h]

theorem streamOf_append (a : String) (ops ops' : List (String × α)) :
    streamOf a (ops ++ ops') = streamOf a ops ++ streamOf a ops' := by
  simp [streamOf]

theorem streamOf_eq_nil {a : String} {ops : List (String × α)} (h : a ∉ ops.map (·.1)) : streamOf a ops = [] := by
  unfold streamOf
  rw [List.map_eq_nil_iff, List.filter_eq_nil_iff]
  exact fun op hop hc => h (List.mem_map.mpr ⟨op, hop, by simpa using hc⟩)

theorem forall_streamOf {P : α → Prop} (a : String) {ops : List (String × α)} (h : ∀ op ∈ ops, P op.2) :
    ∀ x ∈ streamOf a ops, P x := by
  intro x hx
  obtain ⟨op, hop, rfl⟩ := List.mem_map.mp hx
  exact h op (List.mem_of_mem_filter hop)

theorem mem_trackAll (T : List String) (ops : List (String × α)) (b : String) :
    b ∈ trackAll T ops ↔ b ∈ T ∨ b ∈ ops.map (·.1) := by
  induction ops generalizing T with
  | nil => simp [trackAll]
  | cons op ops ih =>
    unfold trackAll at ih ⊢
    rw [List.foldl_cons, ih, mem_track, List.map_cons, List.mem_cons, or_assoc]

/-- feeding pairwise distinct assets: those not yet tracked are appended, in order -/
theorem trackAll_map (T B : List String) (g : String → α) (hB : B.Nodup) :
    trackAll T (B.map fun a => (a, g a)) = T ++ B.filter fun a => !T.contains a := by
  induction B generalizing T with
  | nil => simp [trackAll]
  | cons a B ih =>
    have hn := List.nodup_cons.mp hB
    show trackAll (track T a) (B.map fun a => (a, g a)) = _
    rw [ih _ hn.2, List.filter_cons]
    by_cases ha : a ∈ T
    · simp [track, ha]
    · have : B.filter (fun b => !(T ++ [a]).contains b) = B.filter fun b => !T.contains b :=
        List.filter_congr fun b hb => by
          have : b ≠ a := fun e => hn.1 (e ▸ hb)
          simp [this]
      rw [show track T a = T ++ [a] from if_neg ha, this]
      simp [ha]

theorem streamOf_map_nodup (A : List String) (g : String → α) (b : String) (hA : A.Nodup) :
    streamOf b (A.map fun a => (a, g a)) = if b ∈ A then [g b] else [] := by
  induction A with
  | nil => rfl
  | cons a A ih =>
    have hn := List.nodup_cons.mp hA
    rw [List.map_cons, streamOf_cons, ih hn.2]
    by_cases hab : a = b
    · subst hab
      simp [hn.1]
    · have : ¬ b = a := fun e => hab e.symm
      simp [hab, this]

/-- the observations of asset `a`: one mid price per day, from the first day on which `a` is tracked
(`tracked0`: it is tracked from the start) -/
def dayStream (tracked0 : Bool) (a : String) (days : List (List String × (String → α))) : List α :=
  (days.dropWhile fun d => !(tracked0 || decide (a ∈ d.1))).map fun d => d.2 a

theorem dayStream_tracked (a : String) (days : List (List String × (String → α))) :
    dayStream true a days = days.map fun d => d.2 a := by
  unfold dayStream
  cases days with
  | nil => rfl
  | cons d ds => simp

theorem dayStream_cons (b : Bool) (a : String) (d : List String × (String → α))
    (ds : List (List String × (String → α))) :
    dayStream b a (d :: ds) =
      if b = true ∨ a ∈ d.1 then d.2 a :: dayStream true a ds else dayStream b a ds := by
  simp only [dayStream_tracked]
  cases b <;> by_cases h : a ∈ d.1 <;> simp [dayStream, h]

/-! ### The invariant: a canonical store for the tracked assets -/

/-- the buffers `Signal.append` works on: new empty buffers are created when the asset is not yet stored -/
def appendBufs (s : Signal α) (a : String) (l0 : Nat) : List (Buffer α) :=
  if (s.findBuffer a l0).isSome then s.buffers
  else s.buffers ++ s.lookbacks.map fun l => ({ asset := a, lookback := l, items := [] } : Buffer α)

/-- a signal whose buffer store is canonical for the tracked assets `T` and the streams `σ`; `fresh`: an untracked
asset has the empty stream, which is what makes the empty buffers `append` creates for it canonical -/
structure Store (s : Signal α) (T : List String) (σ : String → List α) : Prop where
  lbs_ne : s.lookbacks ≠ []
  bufs : s.buffers = winBufs s.lookbacks T σ
  fresh : ∀ a, a ∉ T → σ a = []

theorem Store.findBuffer {s : Signal α} {T : List String} {σ : String → List α} (h : Store s T σ)
    (a : String) (l : Nat) :
    s.findBuffer a l =
      if a ∈ T ∧ l ∈ s.lookbacks then some { asset := a, lookback := l, items := lastN l (σ a) } else none := by
  unfold Signal.findBuffer
  rw [h.bufs, find_winBufs]

theorem Store.congr {s : Signal α} {T : List String} {σ τ : String → List α} (h : Store s T σ)
    (e : ∀ a, σ a = τ a) : Store s T τ := by
  rwa [← funext e]

theorem find?_appendBufs_ne (s : Signal α) {a b : String} (hb : b ≠ a) (l0 l : Nat) :
    (appendBufs s a l0).find? (hasKey b l) = s.findBuffer b l := by
  unfold appendBufs
  split
  · rfl
  · have hnone : (s.lookbacks.map fun l => ({ asset := a, lookback := l, items := [] } : Buffer α)).find?
        (hasKey b l) = none := List.find?_eq_none.mpr fun y hy => by
      obtain ⟨l', -, rfl⟩ := List.mem_map.mp hy
      simp [hb.symm]
    rw [List.find?_append, hnone, Option.or_none]; rfl

theorem store_appendBufs {s : Signal α} {T : List String} {σ : String → List α} (h : Store s T σ) (a : String) :
    appendBufs s a (s.lookbacks.headD 0) = winBufs s.lookbacks (track T a) σ := by
  have hl0 : s.lookbacks.headD 0 ∈ s.lookbacks := by
    obtain ⟨l0, L', hL⟩ := List.exists_cons_of_ne_nil h.lbs_ne
    rw [hL]; simp
  unfold appendBufs track
  rw [h.findBuffer, h.bufs]
  by_cases ha : a ∈ T
  · simp only [ha, hl0, and_self, if_true, Option.isSome_some]
  · simp only [ha, false_and, if_false, Option.isSome_none, Bool.false_eq_true]
    rw [winBufs_append]
    congr 1
    simp [winBufs, h.fresh a ha, lastN_nil]

theorem store_new (kind : SignalKind) (lbs : List Nat) (assets : List String) (hl : lbs ≠ []) :
    Store (Signal.new kind lbs assets : Signal α) assets (fun _ => []) := by
  refine ⟨?_, ?_, fun _ _ => rfl⟩
  · simpa [Signal.new] using hl
  · simp [Signal.new, winBufs, lastN_nil]

theorem updateAssets_assets (s : Signal α) (uni : List String) :
    (s.updateAssets uni).assets = s.assets ++ (uni.filter fun a => !s.assets.contains a).eraseDups := rfl

theorem mem_updateAssets (s : Signal α) (uni : List String) (a : String) :
    a ∈ (s.updateAssets uni).assets ↔ a ∈ s.assets ∨ a ∈ uni := by
  rw [updateAssets_assets, List.mem_append, List.mem_eraseDups, List.mem_filter]
  by_cases h : a ∈ s.assets <;> simp [h]

/-- `updateAssets` changes `assets` only, and a `Store` does not mention them -/
theorem Store.updateAssets {s : Signal α} {T : List String} {σ : String → List α} (h : Store s T σ)
    (uni : List String) : Store (s.updateAssets uni) T σ :=
  ⟨h.lbs_ne, h.bufs, h.fresh⟩

theorem updateAssets_nodup (s : Signal α) (uni : List String) (h : s.assets.Nodup) :
    (s.updateAssets uni).assets.Nodup := by
  rw [updateAssets_assets, List.nodup_append]
  refine ⟨h, eraseDups_nodup _, ?_⟩
  intro a ha b hb
  rw [List.mem_eraseDups, List.mem_filter] at hb
  rintro rfl
  simp [ha] at hb

theorem trackAll_updateAssets (s : Signal α) (uni : List String) (g : String → α) (h : s.assets.Nodup) :
    trackAll s.assets ((s.updateAssets uni).assets.map fun a => (a, g a)) = (s.updateAssets uni).assets := by
  rw [trackAll_map _ _ _ (updateAssets_nodup s uni h), updateAssets_assets, List.filter_append,
    List.filter_eq_nil_iff.mpr (by simp), List.filter_eq_self.mpr, List.nil_append]
  intro a ha
  rw [List.mem_eraseDups, List.mem_filter] at ha
  exact ha.2

/-- a signal of a collection: the store is canonical for exactly the tracked assets, which are distinct -/
structure Holds (s : Signal α) (σ : String → List α) : Prop where
  store : Store s s.assets σ
  nodup : s.assets.Nodup

theorem Holds.congr {s : Signal α} {σ τ : String → List α} (h : Holds s σ) (e : ∀ a, σ a = τ a) :
    Holds s τ := by
  rwa [← funext e]

theorem holds_new (kind : SignalKind) (lbs : List Nat) (assets : List String) (hl : lbs ≠ [])
    (hn : assets.Nodup) : Holds (Signal.new kind lbs assets : Signal α) (fun _ => []) :=
  ⟨store_new kind lbs assets hl, hn⟩

end Lists

/-! ### The operations iterated (the carrier enters only through its comparisons) -/

section Ops
variable {α : Type} [NumOps α]

/-- apply a sequence of `(asset, price)` appends, ignoring refusals (a refused append changes nothing) -/
def appendAll (s : Signal α) (ops : List (String × α)) : Signal α :=
  ops.foldl (fun s op => (s.append op.1 op.2).1) s

theorem appendAll_cons (s : Signal α) (op : String × α) (ops : List (String × α)) :
    appendAll s (op :: ops) = appendAll (s.append op.1 op.2).1 ops := rfl

theorem appendAll_append (s : Signal α) (ops ops' : List (String × α)) :
    appendAll s (ops ++ ops') = appendAll (appendAll s ops) ops' := by
  simp [appendAll, List.foldl_append]

theorem feed_nil (mid : String → α) (s : Signal α) : Signal.feed mid s [] = (s, none) := by
  rw [Signal.feed]

theorem feed_cons (mid : String → α) (s : Signal α) (a : String) (as : List String) :
    Signal.feed mid s (a :: as) =
      match (s.append a (mid a)).2 with
      | none => Signal.feed mid (s.append a (mid a)).1 as
      | some e => ((s.append a (mid a)).1, some e) := by
  rw [Signal.feed]
  rcases s.append a (mid a) with ⟨s', _ | e⟩ <;> rfl

theorem feedAll_nil (mid : String → α) : feedAll mid ([] : List (Signal α)) = ([], none) := by
  rw [feedAll]

/-- what `SignalsCollection.update` does to one signal: track the new universe members, then feed the
latest mid price of every tracked asset -/
def dayStep (uni : List String) (mid : String → α) (s : Signal α) : Signal α :=
  (Signal.feed mid (s.updateAssets uni) (s.updateAssets uni).assets).1

/-- one `SignalsCollection.update` per day `(universe, mid prices)`, seen from one signal -/
def runDays (s : Signal α) (days : List (List String × (String → α))) : Signal α :=
  days.foldl (fun s d => dayStep d.1 d.2 s) s

end Ops

section Store
variable {α : Type} [Field α] [LinearOrder α] [IsStrictOrderedRing α] [FloorRing α] [NumOps α] [LawfulNumOps α]

theorem winBufs_congr (L : List Nat) (T : List String) (σ τ : String → List α)
    (h : ∀ a ∈ T, σ a = τ a) : winBufs L T σ = winBufs L T τ := by
  induction T with
  | nil => rfl
  | cons a T ih =>
    unfold winBufs at ih ⊢
    rw [List.flatMap_cons, List.flatMap_cons, ih (fun b hb => h b (List.mem_cons_of_mem _ hb)),
      h a (by simp)]

theorem streamOf_nil (a : String) : streamOf a ([] : List (String × α)) = [] := rfl

/-- when `Signal.append` accepts a price: it is positive and a lookback is configured -/
def Accepts (s : Signal α) (p : α) : Prop := 0 < p ∧ s.lookbacks ≠ []

instance (s : Signal α) (p : α) : Decidable (Accepts s p) := by unfold Accepts; infer_instance

theorem append_def (s : Signal α) (a : String) (p : α) :
    s.append a p =
      if Accepts s p then
        ({ s with buffers := (appendBufs s a (s.lookbacks.headD 0)).map (pushStep s.lookbacks a p) }, none)
      else (s, some .value) := by
  obtain ⟨k, L, A, B⟩ := s
  unfold Signal.append appendBufs Accepts
  by_cases hp : 0 < p
  · cases L with
    | nil => simp
    | cons l0 L' =>
      have : ¬ p ≤ 0 := not_le.mpr hp
      simp only [le_eq, zero_eq, this, decide_false, Bool.false_eq_true, if_false, hp, ne_eq, reduceCtorEq,
        not_false_eq_true, and_self, if_true, List.headD_cons]
      rfl
  · simp [hp, not_lt.mp hp]

theorem Accepts_congr {s s' : Signal α} (h : s'.lookbacks = s.lookbacks) (p : α) : Accepts s' p ↔ Accepts s p := by
  unfold Accepts; rw [h]

theorem append_of_not (s : Signal α) (a : String) (p : α) (h : ¬ Accepts s p) :
    s.append a p = (s, some .value) := by
  rw [append_def, if_neg h]

theorem append_snd (s : Signal α) (a : String) (p : α) : (s.append a p).2 = none ↔ Accepts s p := by
  rw [append_def]
  split <;> simp [*]

theorem append_cfg (s : Signal α) (a : String) (p : α) :
    (s.append a p).1.kind = s.kind ∧ (s.append a p).1.lookbacks = s.lookbacks ∧
      (s.append a p).1.assets = s.assets := by
  rw [append_def]
  split <;> exact ⟨rfl, rfl, rfl⟩

theorem append_lookbacks (s : Signal α) (a : String) (p : α) : (s.append a p).1.lookbacks = s.lookbacks :=
  (append_cfg s a p).2.1

theorem appendAll_cfg (s : Signal α) (ops : List (String × α)) :
    (appendAll s ops).kind = s.kind ∧ (appendAll s ops).lookbacks = s.lookbacks ∧
      (appendAll s ops).assets = s.assets :=
  foldl_inv _ (fun s' : Signal α => s'.kind = s.kind ∧ s'.lookbacks = s.lookbacks ∧ s'.assets = s.assets)
    (fun s' op ⟨h1, h2, h3⟩ =>
      let ⟨k1, k2, k3⟩ := append_cfg s' op.1 op.2
      ⟨k1.trans h1, k2.trans h2, k3.trans h3⟩) ops s ⟨rfl, rfl, rfl⟩

theorem appendAll_lookbacks (s : Signal α) (ops : List (String × α)) : (appendAll s ops).lookbacks = s.lookbacks :=
  (appendAll_cfg s ops).2.1

theorem findBuffer_append (s : Signal α) (a c : String) (p : α) (l : Nat) (h : Accepts s p) :
    (s.append a p).1.findBuffer c l =
      ((appendBufs s a (s.lookbacks.headD 0)).find? (hasKey c l)).map (pushStep s.lookbacks a p) := by
  rw [append_def, if_pos h]
  -- `pushStep` keeps the key of a buffer, so lookup commutes with it
  exact find?_map_of_blind (fun b => by simp only [pushStep]; split <;> rfl) _

theorem findBuffer_append_ne (s : Signal α) (a b : String) (p : α) (l : Nat) (hb : b ≠ a) :
    (s.append a p).1.findBuffer b l = s.findBuffer b l := by
  by_cases h : Accepts s p
  · rw [findBuffer_append s a b p l h]
    -- the buffers possibly created belong to `a`, and `pushStep` leaves a buffer of `b` alone
    rw [find?_appendBufs_ne s hb]
    cases hf : s.findBuffer b l with
    | none => rfl
    | some y =>
      have hy := List.find?_some hf
      simp only [Bool.and_eq_true, beq_iff_eq] at hy
      have : (y.asset == a) = false := by simpa [hy.1] using hb
      simp [pushStep, this]
  · rw [append_of_not s a p h]

/-- what a signal of kind `k` computes from a window -/
def valueOf [TransOps α] : SignalKind → List α → α
  | .momentum => momentumOf
  | .sma => smaOf
  | .vol => volOf

theorem Store.call [TransOps α] {s : Signal α} {T : List String} {σ : String → List α} (h : Store s T σ)
    {a : String} (ha : a ∈ T) {N : Nat} (hN : Signal.bump s.kind N ∈ s.lookbacks) :
    s.call a N = .ok (valueOf s.kind (lastN (Signal.bump s.kind N) (σ a))) := by
  unfold Signal.call
  rw [h.findBuffer, if_pos ⟨ha, hN⟩]
  cases s.kind <;> rfl

theorem append_store {s : Signal α} {T : List String} {σ : String → List α} (h : Store s T σ)
    (a : String) (p : α) (hp : 0 < p) :
    (s.append a p).2 = none ∧
      Store (s.append a p).1 (track T a) (fun b => if b = a then σ a ++ [p] else σ b) := by
  have hacc : Accepts s p := ⟨hp, h.lbs_ne⟩
  refine ⟨(append_snd s a p).mpr hacc, ?_, ?_, ?_⟩
  · rw [append_lookbacks]; exact h.lbs_ne
  · rw [append_lookbacks, append_def, if_pos hacc]
    simp only
    rw [store_appendBufs h]
    exact map_pushStep_winBufs _ _ _ _ _
  · intro b hb
    rw [mem_track] at hb
    have hba : b ≠ a := fun e => hb (Or.inr e)
    simp only [hba, if_false]
    exact h.fresh b (fun e => hb (Or.inl e))

theorem appendAll_nil (s : Signal α) : appendAll s [] = s := rfl

theorem appendAll_store {s : Signal α} {T : List String} {σ : String → List α} (h : Store s T σ)
    (ops : List (String × α)) (hpos : ∀ op ∈ ops, 0 < op.2) :
    Store (appendAll s ops) (trackAll T ops) (fun b => σ b ++ streamOf b ops) := by
  induction ops generalizing s T σ with
  | nil => exact h.congr fun b => (List.append_nil _).symm
  | cons op ops ih =>
    refine (ih (append_store h op.1 op.2 (hpos op (by simp))).2
      (fun o ho => hpos o (List.mem_cons_of_mem _ ho))).congr fun b => ?_
    rw [streamOf_cons]
    by_cases hb : b = op.1
    · subst hb; simp
    · have : ¬ op.1 = b := fun e => hb e.symm
      simp [hb, this]

theorem appendAll_new_store (kind : SignalKind) (lbs : List Nat) (assets : List String)
    (ops : List (String × α)) (hl : lbs ≠ []) (hpos : ∀ op ∈ ops, 0 < op.2) :
    Store (appendAll (Signal.new kind lbs assets : Signal α) ops) (trackAll assets ops)
      (fun b => streamOf b ops) :=
  (appendAll_store (store_new kind lbs assets hl) ops hpos).congr fun _ => List.nil_append _

theorem call_appendAll [TransOps α] (kind : SignalKind) (lbs : List Nat) (assets : List String)
    (ops : List (String × α)) (hl : lbs ≠ []) (hpos : ∀ op ∈ ops, 0 < op.2)
    (a : String) (ha : a ∈ assets ∨ a ∈ ops.map (·.1)) (N : Nat) (hN : N ∈ lbs) :
    (appendAll (Signal.new kind lbs assets) ops).call a N =
      .ok (valueOf kind (lastN (Signal.bump kind N) (streamOf a ops))) := by
  have h := appendAll_new_store (α := α) kind lbs assets ops hl hpos
  obtain ⟨hk, hlb, -⟩ := appendAll_cfg (Signal.new kind lbs assets : Signal α) ops
  rw [h.call ((mem_trackAll _ _ _).mpr ha) (N := N) (by
    rw [hk, hlb]; exact List.mem_map.mpr ⟨N, hN, rfl⟩), hk]
  simp [Signal.new]

/-- `Signal.feed` in all cases: the appends up to the first refused price -/
theorem feed_def (mid : String → α) (s : Signal α) (as : List String) :
    Signal.feed mid s as =
      (appendAll s ((as.takeWhile fun a => decide (Accepts s (mid a))).map fun a => (a, mid a)),
       if ∀ a ∈ as, Accepts s (mid a) then none else some .value) := by
  induction as generalizing s with
  | nil => rw [feed_nil]; simp [appendAll]
  | cons a as ih =>
    by_cases h : Accepts s (mid a)
    · have hacc := Accepts_congr (append_lookbacks s a (mid a))
      rw [feed_cons, (append_snd s a _).mpr h, ih]
      simp only [hacc, List.takeWhile_cons, h, decide_true, if_true, List.map_cons, List.forall_mem_cons,
        true_and, appendAll_cons]
    · rw [feed_cons, append_of_not s a _ h]
      simp [h, appendAll]

theorem feed_no_lookbacks (mid : String → α) (s : Signal α) (as : List String) (hL : s.lookbacks = []) :
    Signal.feed mid s as = (s, if as = [] then none else some .value) := by
  have hacc : ∀ q, ¬ Accepts s q := fun q h => h.2 hL
  rw [feed_def]
  cases as with
  | nil => rfl
  | cons a as =>
    rw [if_neg fun h => hacc _ (h a List.mem_cons_self), List.takeWhile_cons, decide_eq_false (hacc _)]
    rfl

theorem feed_eq (mid : String → α) (s : Signal α) (as : List String) (hL : s.lookbacks ≠ [])
    (hpos : ∀ a ∈ as, 0 < mid a) :
    Signal.feed mid s as = (appendAll s (as.map fun a => (a, mid a)), none) := by
  have h : ∀ a ∈ as, Accepts s (mid a) := fun a ha => ⟨hpos a ha, hL⟩
  rw [feed_def, if_pos h, List.takeWhile_eq_self_iff.mpr fun a ha => decide_eq_true (h a ha)]

theorem feed_snd (mid : String → α) (s : Signal α) (as : List String) (hL : s.lookbacks ≠ []) :
    (Signal.feed mid s as).2 = none ↔ ∀ a ∈ as, 0 < mid a := by
  rw [feed_def]
  split <;> rename_i h
  · exact iff_of_true rfl fun a ha => (h a ha).1
  · exact iff_of_false nofun fun h' => h fun a ha => ⟨h' a ha, hL⟩

theorem feed_cfg (mid : String → α) (s : Signal α) (as : List String) :
    (Signal.feed mid s as).1.kind = s.kind ∧ (Signal.feed mid s as).1.lookbacks = s.lookbacks ∧
      (Signal.feed mid s as).1.assets = s.assets := by
  rw [feed_def]
  exact appendAll_cfg _ _

/-! ### `feedAll`, `SignalsCollection.update`: success is success of every feed -/

theorem feedAll_none_iff (mid : String → α) (sigs sigs' : List (Signal α)) :
    feedAll mid sigs = (sigs', none) ↔
      (∀ s ∈ sigs, (Signal.feed mid s s.assets).2 = none) ∧
        sigs' = sigs.map fun s => (Signal.feed mid s s.assets).1 := by
  induction sigs generalizing sigs' with
  | nil => rw [feedAll_nil]; simp [eq_comm]
  | cons s rest ih =>
    rw [feedAll]
    simp only [List.forall_mem_cons, List.map_cons]
    generalize Signal.feed mid s s.assets = r
    generalize feedAll mid rest = q at ih
    rcases r with ⟨s', _ | e⟩
    · rcases q with ⟨rest', _ | e'⟩
      · obtain ⟨hA, rfl⟩ := (ih rest').mp rfl
        simp only [Prod.mk.injEq, and_true, true_and]
        exact ⟨fun e => ⟨hA, e.symm⟩, fun e => e.2.symm⟩
      · have hA : ¬ ∀ s ∈ rest, (Signal.feed mid s s.assets).2 = none := fun h =>
          nomatch (ih _).mpr ⟨h, rfl⟩
        simp [hA]
    · simp

theorem update_none_iff (c c' : SignalsCollection α) (uni : List String) (mid : String → α) :
    c.update uni mid = (c', none) ↔
      (∀ s ∈ c.signals, (Signal.feed mid (s.updateAssets uni) (s.updateAssets uni).assets).2 = none) ∧
        c' = { signals := c.signals.map (dayStep uni mid), warmup := c.warmup + 1 } := by
  have hiff := feedAll_none_iff mid (c.signals.map fun s => s.updateAssets uni)
  simp only [List.forall_mem_map, List.map_map] at hiff
  unfold SignalsCollection.update
  generalize feedAll mid (c.signals.map fun s => s.updateAssets uni) = q at hiff
  rcases q with ⟨sigs, _ | e⟩
  · obtain ⟨h1, rfl⟩ := (hiff sigs).mp rfl
    simp only [Prod.mk.injEq, and_true]
    exact ⟨fun e => ⟨h1, e.symm⟩, fun e => e.2.symm⟩
  · have : ¬ ∀ s ∈ c.signals, (Signal.feed mid (s.updateAssets uni) (s.updateAssets uni).assets).2 = none :=
      fun h => nomatch (hiff _).mpr ⟨h, rfl⟩
    simp [this]

/-! ### One update seen from one signal: `dayStep` -/

theorem feed_update_snd {s : Signal α} {σ : String → List α} (h : Holds s σ) (uni : List String)
    (mid : String → α) :
    (Signal.feed mid (s.updateAssets uni) (s.updateAssets uni).assets).2 = none ↔
      ∀ a, a ∈ s.assets ∨ a ∈ uni → 0 < mid a := by
  rw [feed_snd mid (s.updateAssets uni) _ h.store.lbs_ne]
  exact forall_congr' fun a => by rw [mem_updateAssets]

theorem update_none_iff_pos (c c' : SignalsCollection α) (uni : List String) (mid : String → α)
    (hwf : ∀ s ∈ c.signals, ∃ σ, Holds s σ) :
    c.update uni mid = (c', none) ↔
      (∀ s ∈ c.signals, ∀ a, a ∈ s.assets ∨ a ∈ uni → 0 < mid a) ∧
        c' = { signals := c.signals.map (dayStep uni mid), warmup := c.warmup + 1 } := by
  rw [update_none_iff]
  refine and_congr_left' (forall₂_congr fun s hs => ?_)
  obtain ⟨σ, hσ⟩ := hwf s hs
  exact feed_update_snd hσ _ _

theorem dayStep_cfg (uni : List String) (mid : String → α) (s : Signal α) :
    (dayStep uni mid s).kind = s.kind ∧ (dayStep uni mid s).lookbacks = s.lookbacks ∧
      (dayStep uni mid s).assets = (s.updateAssets uni).assets :=
  feed_cfg mid (s.updateAssets uni) (s.updateAssets uni).assets

theorem mem_dayStep_assets (uni : List String) (mid : String → α) (s : Signal α) (a : String) :
    a ∈ (dayStep uni mid s).assets ↔ a ∈ s.assets ∨ a ∈ uni := by
  obtain ⟨-, -, has⟩ := dayStep_cfg uni mid s
  rw [has, mem_updateAssets]

theorem dayStep_eq_appendAll (s : Signal α) (uni : List String) (mid : String → α) (hL : s.lookbacks ≠ [])
    (hpos : ∀ a, a ∈ s.assets ∨ a ∈ uni → 0 < mid a) :
    dayStep uni mid s =
      appendAll (s.updateAssets uni) ((s.updateAssets uni).assets.map fun a => (a, mid a)) := by
  unfold dayStep
  rw [feed_eq mid (s.updateAssets uni) _ hL fun a ha => hpos a ((mem_updateAssets s uni a).mp ha)]

theorem holds_dayStep {s : Signal α} {σ : String → List α} (h : Holds s σ) (uni : List String)
    (mid : String → α) (hpos : ∀ a, a ∈ s.assets ∨ a ∈ uni → 0 < mid a) :
    Holds (dayStep uni mid s) (fun a => if a ∈ s.assets ∨ a ∈ uni then σ a ++ [mid a] else []) := by
  obtain ⟨-, -, has⟩ := dayStep_cfg uni mid s
  have hnd := updateAssets_nodup s uni h.nodup
  refine ⟨?_, has ▸ hnd⟩
  have hst := appendAll_store (h.store.updateAssets uni) ((s.updateAssets uni).assets.map fun a => (a, mid a))
    (by
      intro op hop
      obtain ⟨a, ha, rfl⟩ := List.mem_map.mp hop
      exact hpos a ((mem_updateAssets s uni a).mp ha))
  rw [trackAll_updateAssets s uni mid h.nodup] at hst
  rw [has, dayStep_eq_appendAll s uni mid h.store.lbs_ne hpos]
  refine hst.congr fun b => ?_
  rw [streamOf_map_nodup _ _ _ hnd]
  simp only [mem_updateAssets]
  by_cases hb : b ∈ s.assets ∨ b ∈ uni
  · simp [hb]
  · simp [hb, h.store.fresh b fun e => hb (Or.inl e)]

/-- every lookup after one update -/
theorem findBuffer_dayStep {s : Signal α} {σ : String → List α} (h : Holds s σ) (uni : List String)
    (mid : String → α) (hpos : ∀ a, a ∈ s.assets ∨ a ∈ uni → 0 < mid a) (a : String) (l : Nat) :
    (dayStep uni mid s).findBuffer a l =
      if (a ∈ s.assets ∨ a ∈ uni) ∧ l ∈ s.lookbacks then
        some { asset := a, lookback := l,
               items := lastN l (if a ∈ s.assets ∨ a ∈ uni then σ a ++ [mid a] else []) }
      else none := by
  obtain ⟨-, hl, -⟩ := dayStep_cfg uni mid s
  rw [(holds_dayStep h uni mid hpos).store.findBuffer, hl]
  simp only [mem_dayStep_assets]

/-! ### Several days -/

/-- the mid price of every asset is positive on every day on which the asset is tracked
(tracked from the start, or a universe member on that day or an earlier one) -/
def DaysPos (A : List String) (days : List (List String × (String → α))) : Prop :=
  ∀ pre d post, days = pre ++ d :: post →
    ∀ a, (a ∈ A ∨ ∃ e ∈ pre ++ [d], a ∈ e.1) → 0 < d.2 a

theorem daysPos_nil (A : List String) : DaysPos A ([] : List (List String × (String → α))) := by
  intro pre d post h; simp at h

theorem daysPos_of_forall {A : List String} {days : List (List String × (String → α))}
    (h : ∀ d ∈ days, ∀ a, 0 < d.2 a) : DaysPos A days :=
  fun pre d post hsplit a _ => h d (by rw [hsplit]; simp) a

theorem DaysPos.head {A : List String} {d : List String × (String → α)}
    {ds : List (List String × (String → α))} (h : DaysPos A (d :: ds)) :
    ∀ a, a ∈ A ∨ a ∈ d.1 → 0 < d.2 a :=
  fun a ha => h [] d ds rfl a (ha.imp_right fun ha => ⟨d, by simp, ha⟩)

/-- `DaysPos` day by day; `A'` is any list with the members of `A` and of the day's universe -/
theorem daysPos_cons {A A' : List String} {d : List String × (String → α)}
    {ds : List (List String × (String → α))} (hA' : ∀ a, a ∈ A' ↔ a ∈ A ∨ a ∈ d.1) :
    DaysPos A (d :: ds) ↔ (∀ a, a ∈ A ∨ a ∈ d.1 → 0 < d.2 a) ∧ DaysPos A' ds := by
  -- after day `d` the tracked assets are those of `A'`
  have key : ∀ pre e a, (a ∈ A ∨ ∃ e' ∈ d :: pre ++ [e], a ∈ e'.1) ↔ (a ∈ A' ∨ ∃ e' ∈ pre ++ [e], a ∈ e'.1) :=
    fun pre e a => by
      rw [hA', or_assoc]
      simp only [List.cons_append, List.mem_cons, exists_eq_or_imp]
  refine ⟨fun h => ⟨h.head, fun pre e post hsplit a ha =>
    h (d :: pre) e post (by rw [hsplit]; rfl) a ((key pre e a).mpr ha)⟩, ?_⟩
  rintro ⟨h0, h1⟩ pre e post hsplit a ha
  cases pre with
  | nil =>
    obtain ⟨rfl, -⟩ := List.cons.inj hsplit
    exact h0 a (by simpa using ha)
  | cons p pre' =>
    obtain ⟨rfl, hds⟩ := List.cons.inj hsplit
    exact h1 pre' e post hds a ((key pre' e a).mp ha)

theorem runDays_spec {s : Signal α} {σ : String → List α} (h : Holds s σ)
    (days : List (List String × (String → α))) (hpos : DaysPos s.assets days) :
    (runDays s days).kind = s.kind ∧ (runDays s days).lookbacks = s.lookbacks ∧
    (∀ a, a ∈ (runDays s days).assets ↔ a ∈ s.assets ∨ ∃ d ∈ days, a ∈ d.1) ∧
    Holds (runDays s days) (fun a => σ a ++ dayStream (decide (a ∈ s.assets)) a days) := by
  induction days generalizing s σ with
  | nil => exact ⟨rfl, rfl, by simp [runDays], h.congr fun a => by simp [dayStream]⟩
  | cons d ds ih =>
    obtain ⟨hk, hl, -⟩ := dayStep_cfg d.1 d.2 s
    have hmem := mem_dayStep_assets d.1 d.2 s
    obtain ⟨ik, il, ias, ih'⟩ := ih (holds_dayStep h d.1 d.2 hpos.head) ((daysPos_cons hmem).mp hpos).2
    have hrun : runDays s (d :: ds) = runDays (dayStep d.1 d.2 s) ds := rfl
    rw [hrun]
    refine ⟨ik.trans hk, il.trans hl, fun a => ?_, ih'.congr fun a => ?_⟩
    · rw [ias, hmem, or_assoc]
      simp only [List.mem_cons, exists_eq_or_imp]
    · rw [dayStream_cons]
      by_cases ha : a ∈ s.assets ∨ a ∈ d.1
      · simp [ha, (hmem a).mpr ha]
      · have ha' : a ∉ (dayStep d.1 d.2 s).assets := fun e => ha ((hmem a).mp e)
        rw [not_or] at ha
        simp [ha', ha.1, ha.2, h.store.fresh a ha.1]

/-- run `SignalsCollection.update` once per day, stopping at the first error -/
def updateAll (c : SignalsCollection α) :
    List (List String × (String → α)) → SignalsCollection α × Option Err
  | [] => (c, none)
  | d :: ds =>
    match c.update d.1 d.2 with
    | (c', some e) => (c', some e)
    | (c', none) => updateAll c' ds

theorem updateAll_none_iff (c c' : SignalsCollection α) (days : List (List String × (String → α)))
    (hwf : ∀ s ∈ c.signals, ∃ σ, Holds s σ) :
    updateAll c days = (c', none) ↔
      (∀ s ∈ c.signals, DaysPos s.assets days) ∧
        c' = { signals := c.signals.map fun s => runDays s days, warmup := c.warmup + days.length } := by
  induction days generalizing c with
  | nil => rw [updateAll]; simp [daysPos_nil, runDays, eq_comm]
  | cons d ds ih =>
    rw [updateAll]
    have h1 := fun c1 => update_none_iff_pos c c1 d.1 d.2 hwf
    rcases hu : c.update d.1 d.2 with ⟨c1, _ | e⟩
    · obtain ⟨hp0, rfl⟩ := (h1 c1).mp hu
      simp only
      -- the update keeps every signal of the collection well formed
      rw [ih _ (List.forall_mem_map.mpr fun s hs =>
        let ⟨_, hσ⟩ := hwf s hs; ⟨_, holds_dayStep hσ d.1 d.2 (hp0 s hs)⟩)]
      simp only [List.forall_mem_map, List.map_map, List.length_cons]
      refine and_congr (forall₂_congr fun s hs => ?_) ?_
      · rw [daysPos_cons (mem_dayStep_assets d.1 d.2 s)]; exact (and_iff_right (hp0 s hs)).symm
      · rw [Nat.add_assoc, Nat.add_comm 1]; rfl
    · simp only [reduceCtorEq, Prod.mk.injEq, and_false, false_iff, not_and]
      exact fun hpos => nomatch hu.symm.trans ((h1 _).mpr ⟨fun s hs => (hpos s hs).head, rfl⟩)

end Store

end Sig
end Qs
