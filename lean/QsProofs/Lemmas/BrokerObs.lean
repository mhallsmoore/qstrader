import QsProofs.Lemmas.Broker

/-!
# What is observed of a broker, the outcome of every op, the cash balances

`obs` leaves out clocks and prices, so a mark is unobservable whatever its outcome (that a refused op is, is `step_ref`
of `BrokerSim`).  The `*_out` equations are the error-kind table of C15; `update` has none, since it may raise after
some of its marks and fills have taken effect.  `cashView` is what `C01_only_these` speaks of.
-/

set_option linter.unusedSectionVars false

namespace Qs

section
variable {α : Type} [Field α] [LinearOrder α] [IsStrictOrderedRing α] [FloorRing α] [NumOps α]
  [LawfulNumOps α]

def obsPf (e : PfEntry α) : String × α × List (String × α) × List Order × List (Event α) :=
  (e.pf.id, e.pf.cash, e.pf.positions.map (fun p => (p.asset, p.net)), e.queue, e.pf.history)

def obs (b : Broker α) : α × List (String × α × List (String × α) × List Order × List (Event α)) :=
  (b.master, b.entries.map obsPf)

def cashView (b : Broker α) : α × List (String × α) :=
  (b.master, b.entries.map (fun e => (e.pf.id, e.pf.cash)))

theorem obs_setPf {b : Broker α} {pid : String} {e : PfEntry α} (hu : UniqueIds b)
    (hf : b.find? pid = some e) (p : Portfolio α) (hid : p.id = pid)
    (hp : obsPf { e with pf := p } = obsPf e) : obs (b.setPf p) = obs b := by
  unfold obs
  rw [setPf_master, setPf_map_same hu hf p hid obsPf hp]

/-! ### the outcomes -/

theorem subscribe_out (p : Portfolio α) (t : Int) (a : α) :
    (p.subscribe t a).2 = if t < p.clock ∨ a < 0 then some .value else none := by
  rw [subscribe_eq]; by_cases h1 : t < p.clock <;> by_cases h2 : a < 0 <;> simp only [h1, h2, if_true, if_false, or_self, or_true, true_or]

theorem withdraw_out (p : Portfolio α) (t : Int) (a : α) :
    (p.withdraw t a).2 = if t < p.clock ∨ a < 0 ∨ p.cash < a then some .value else none := by
  rw [withdraw_eq]; by_cases h1 : t < p.clock <;> by_cases h2 : a < 0 ∨ p.cash < a <;> simp only [h1, h2, if_true, if_false, or_self, or_true, true_or]

theorem subscribeAccount_out (b : Broker α) (a : α) :
    (b.subscribeAccount a).2 = if a < 0 then some .value else none := by
  unfold Broker.subscribeAccount; by_cases h : a < 0 <;> simp [h]

theorem withdrawAccount_out (b : Broker α) (a : α) :
    (b.withdrawAccount a).2 = if a < 0 ∨ b.master < a then some .value else none := by
  unfold Broker.withdrawAccount
  by_cases h : a < 0
  · simp [h]
  · by_cases h2 : b.master < a <;> simp [h, h2]

theorem createPortfolio_out (b : Broker α) (pid : String) :
    (b.createPortfolio pid).2 = if b.has pid then some .value else none := by
  obtain ⟨-, -, ⟨ho, hh, -⟩ | ⟨ho, hh, -⟩⟩ := create_entries b pid <;> rw [ho, hh] <;> rfl

theorem subscribePortfolio_out (b : Broker α) (pid : String) (a : α) :
    (b.subscribePortfolio pid a).2 =
      if a < 0 then some .value else
      match b.find? pid with
      | none => some .key
      | some e => if b.master < a ∨ b.clock < e.pf.clock then some .value else none := by
  rw [subscribePortfolio_eq_call]
  by_cases h : a < 0
  · simp [h]
  · cases hf : b.find? pid with
    | none => simp [h, call_none hf]
    | some e =>
      by_cases h2 : b.master < a
      · simp [h, h2]
      · simp [h, h2, call_out, hf, PfCall.run, subscribe_out]

theorem withdrawPortfolio_out (b : Broker α) (pid : String) (a : α) :
    (b.withdrawPortfolio pid a).2 =
      if a < 0 then some .value else
      match b.find? pid with
      | none => some .key
      | some e => if e.pf.cash < a ∨ b.clock < e.pf.clock then some .value else none := by
  rw [withdrawPortfolio_eq_call]
  by_cases h : a < 0
  · simp [h]
  · cases hf : b.find? pid with
    | none => simp [h, call_none hf]
    | some e =>
      by_cases h2 : e.pf.cash < a
      · simp [h, h2]
      · simp [h, h2, call_out, hf, PfCall.run, withdraw_out]

theorem submitOrder_out (b : Broker α) (pid : String) (o : Order) :
    (b.submitOrder pid o).2 = match b.find? pid with | none => some .key | some _ => none := by
  unfold Broker.submitOrder; cases b.find? pid <;> rfl

theorem pfSubscribe_out (b : Broker α) (pid : String) (t : Int) (a : α) :
    (b.pfSubscribe pid t a).2 =
      match b.find? pid with
      | none => some .key
      | some e => if t < e.pf.clock ∨ a < 0 then some .value else none := by
  rw [pfSubscribe_eq_call, call_out]
  cases b.find? pid <;> simp only [PfCall.run, subscribe_out]

theorem pfWithdraw_out (b : Broker α) (pid : String) (t : Int) (a : α) :
    (b.pfWithdraw pid t a).2 =
      match b.find? pid with
      | none => some .key
      | some e => if t < e.pf.clock ∨ a < 0 ∨ e.pf.cash < a then some .value else none := by
  rw [pfWithdraw_eq_call, call_out]
  cases b.find? pid <;> simp only [PfCall.run, withdraw_out]

theorem updatePrice_out (p : Position α) (pr : α) (t : Int) :
    (p.updatePrice pr t).2 = if t < p.clock ∨ pr ≤ 0 then some .value else none := by
  rw [updatePrice_eq]
  by_cases h1 : t < p.clock <;> by_cases h2 : pr ≤ 0 <;> simp only [h1, h2, if_true, if_false, or_self, or_true, true_or]

theorem transact_out (p : Position α) (t : Txn α) :
    (p.transact t).2 =
      if t.qty = 0 then none else if t.time < p.clock ∨ t.price ≤ 0 then some .value else none := by
  rw [transact_eq]
  by_cases h0 : t.qty = 0
  · rw [if_pos h0, if_pos h0]
  · rw [if_neg h0, if_neg h0]
    by_cases h1 : t.time < p.clock
    · rw [if_pos h1, if_pos (.inl h1)]
    · rw [if_neg h1]
      by_cases h2 : t.price ≤ 0
      · rw [if_pos h2, if_pos (.inr h2)]
      · rw [if_neg h2, if_neg (not_or.mpr ⟨h1, h2⟩)]; split <;> rfl

theorem transact_err (p : Position α) (t : Txn α) {e : Err} (h : (p.transact t).2 = some e) :
    t.qty ≠ 0 ∧ (t.time < p.clock ∨ t.price ≤ 0) ∧ e = .value := by
  rw [transact_out] at h
  split_ifs at h with hq hc
  exact ⟨hq, hc, (Option.some.inj h).symm⟩

theorem transactAsset_out (p : Portfolio α) (t : Txn α) :
    (p.transactAsset t).2 =
      if t.time < p.clock then some .value else (p.positions.transactPosition t).2 := by
  rw [transactAsset_eq]; split_ifs <;> rfl

theorem applyTxn_out (b : Broker α) (pid : String) (t : Txn α) :
    (b.applyTxn pid t).2 =
      match b.find? pid with
      | none => some .key
      | some e => (e.pf.transactAsset t).2 := by
  rw [applyTxn_eq_call, call_out]; rfl

theorem mark_out (p : Portfolio α) (asset : String) (price : α) (t : Int) :
    (p.mark asset price t).2 =
      match Positions.find? p.positions asset with
      | none => none
      | some pos => if price < 0 ∨ t < p.clock then some .value else (pos.updatePrice price t).2 := by
  rw [mark_eq]
  cases Positions.find? p.positions asset with
  | none => rfl
  | some pos => dsimp only; split_ifs <;> rfl

theorem applyMark_out (b : Broker α) (pid asset : String) (price : α) (t : Int) :
    (b.applyMark pid asset price t).2 =
      match b.find? pid with
      | none => some .key
      | some e => (e.pf.mark asset price t).2 := by
  rw [applyMark_eq_call, call_out]; rfl

/-! ### `applyMark` is unobservable -/

/-- a mark, accepted or refused, moves the price and the clock of one position -/
theorem mark_obsPf (e : PfEntry α) (asset : String) (price : α) (t : Int)
    (hn : (e.pf.positions.map (·.asset)).Nodup) :
    obsPf { e with pf := (e.pf.mark asset price t).1 } = obsPf e := by
  obtain ⟨hid, hc, hh, -⟩ := mark_frame e.pf asset price t
  have hpos : (e.pf.mark asset price t).1.positions.map (fun q => (q.asset, q.net)) =
      e.pf.positions.map (fun q => (q.asset, q.net)) := by
    rw [mark_eq]
    cases hf : Positions.find? e.pf.positions asset with
    | none => rfl
    | some pos =>
      dsimp only
      split
      · rfl
      · exact Positions.map_set_same hn hf ((Position.updatePrice_asset ..).trans (Positions.find?_some hf).2) _
          (by rw [updatePrice_eq]; split_ifs <;> rfl)
  simp only [obsPf, hid, hc, hh, hpos]

theorem applyMark_obs (b : Broker α) (pid asset : String) (price : α) (t : Int) (hu : UniqueIds b)
    (hp : PosUnique b) : obs (b.applyMark pid asset price t).1 = obs b := by
  rw [applyMark_eq_call, call_direct b pid _ rfl]
  cases hf : b.find? pid with
  | none => rfl
  | some en =>
    exact obs_setPf hu hf _ ((mark_frame ..).1.trans (find?_id hf)) (mark_obsPf en asset price t (hp en (find?_mem hf)))

/-- `applyTxn` refused for an unknown portfolio or by the portfolio's clock stores the portfolio as it was -/
theorem applyTxn_err_obs (b : Broker α) (pid : String) (t : Txn α) (hu : UniqueIds b)
    (hdoc : ∀ en, b.find? pid = some en → t.time < en.pf.clock) :
    obs (b.applyTxn pid t).1 = obs b := by
  rw [applyTxn_eq_call]
  cases hf : b.find? pid with
  | none => rw [call_none hf]
  | some en =>
    have hr : (PfCall.transact t).run en.pf = (en.pf, some .value) := by
      rw [PfCall.run, transactAsset_eq, if_pos (hdoc en hf)]
    rw [call_some hf, hr]
    exact obs_setPf hu hf _ (find?_id hf) rfl

/-- the refusal raised from inside `Position.transact`: which one it is -/
theorem applyTxn_position_err (b : Broker α) (pid : String) (t : Txn α)
    {en : PfEntry α} (hf : b.find? pid = some en) (ht : ¬ t.time < en.pf.clock)
    {e : Err} (h : (b.applyTxn pid t).2 = some e) :
    ∃ pos, Positions.find? en.pf.positions t.asset = some pos ∧ t.qty ≠ 0 ∧
      (t.time < pos.clock ∨ t.price ≤ 0) ∧ e = .value := by
  have h1 := applyTxn_out b pid t
  rw [hf, h] at h1
  simp only at h1
  rw [transactAsset_out, if_neg ht] at h1
  obtain ⟨pos, hpos, herr, -⟩ := Positions.transactPosition_err en.pf.positions t h1.symm
  obtain ⟨hq, hwhy, hval⟩ := transact_err pos t herr
  exact ⟨pos, hpos, hq, hwhy, hval⟩

/-! ### cash balances -/

theorem cashView_of_pfs {b b' : Broker α} (h : b'.entries.map (·.pf) = b.entries.map (·.pf))
    (hm : b'.master = b.master) : cashView b' = cashView b := by
  have := congrArg (List.map (fun p : Portfolio α => (p.id, p.cash))) h
  simp only [List.map_map, Function.comp_def] at this
  unfold cashView
  rw [hm, this]

theorem cashView_setPf_move {b : Broker α} {pid : String} {e : PfEntry α} (hu : UniqueIds b)
    (hf : b.find? pid = some e) (p : Portfolio α) (hid : p.id = e.pf.id) (d : α)
    (hc : p.cash = e.pf.cash + d) (b' : Broker α) (he : b'.entries = (b.setPf p).entries) :
    cashView b' =
      (b'.master, (cashView b).2.map (fun x => if x.1 = pid then (x.1, x.2 + d) else x)) := by
  unfold cashView
  rw [he, List.map_map, setPf_map hu hf p (hid.trans (find?_id hf))]
  refine congrArg _ (List.map_congr_left fun x hx => ?_)
  rw [Function.comp_apply]
  split
  · rename_i h; rw [find?_key_unique (fun e : PfEntry α => e.pf.id) hu hf hx h, hc, hid]
  · rfl

theorem map_move_zero (pid : String) (l : List (String × α)) :
    l.map (fun x => if x.1 = pid then (x.1, x.2 + 0) else x) = l := by
  refine (List.map_congr_left fun x _ => ?_).trans (List.map_id _)
  rw [add_zero]; split <;> rfl

/-- What any call does to the cash balances: on normal return the master balance becomes `m` and portfolio `pid`
gains the call's `cash`; otherwise nothing moves. -/
theorem call_cashView_eq {b : Broker α} (hu : UniqueIds b) (pid : String) (c : PfCall α) (m : α) :
    cashView (b.call pid c m).1 =
      (onOk (b.call pid c m).2 m b.master,
        (cashView b).2.map (fun x => if x.1 = pid then (x.1, x.2 + onOk (b.call pid c m).2 c.cash 0) else x)) := by
  cases hf : b.find? pid with
  | none => rw [call_none hf]; exact (congrArg (Prod.mk b.master) (map_move_zero pid (cashView b).2)).symm
  | some e =>
    obtain ⟨hid, hc⟩ := c.run_cash e.pf
    rw [call_some hf]
    cases hr : (c.run e.pf).2 <;> rw [hr] at hc <;> exact cashView_setPf_move hu hf _ hid _ hc _ rfl

theorem call_cashView {b : Broker α} (hu : UniqueIds b) (pid : String) (c : PfCall α) (m : α)
    (h : onOk (b.call pid c m).2 (m = b.master ∧ c.cash = 0) True) : cashView (b.call pid c m).1 = cashView b := by
  rw [call_cashView_eq hu]
  cases hr : (b.call pid c m).2 with
  | some err => exact congrArg (Prod.mk b.master) (map_move_zero pid (cashView b).2)
  | none =>
    rw [hr] at h
    obtain ⟨h1, h2⟩ : m = b.master ∧ c.cash = 0 := h
    simp only [onOk, h1, h2]
    exact congrArg (Prod.mk b.master) (map_move_zero pid (cashView b).2)

theorem step_cashView_ok {b : Broker α} {op : Op α} {g : Bool} {pid : String} {c : PfCall α} {m : α}
    (hu : UniqueIds b) (hop : pfOp b op = some (g, pid, c, m)) (h : (step b op).2 = none) :
    cashView (step b op).1 =
      (m, (cashView b).2.map (fun x => if x.1 = pid then (x.1, x.2 + c.cash) else x)) := by
  rw [step_pfOp hop] at h ⊢
  cases g with
  | true => cases h
  | false =>
    rw [if_neg Bool.false_ne_true] at h ⊢
    rw [call_cashView_eq hu, h]
    rfl

theorem applyMark_cashView (b : Broker α) (pid asset : String) (price : α) (t : Int) (hu : UniqueIds b) :
    cashView (b.applyMark pid asset price t).1 = cashView b := by
  rw [applyMark_eq_call]
  exact call_cashView hu pid _ _ (by cases (b.call pid (.mark asset price t) b.master).2 <;> simp [onOk, PfCall.cash])

/-- `Broker.marked` of `BrokerBasic` on the lawful carrier -/
def marked (b : Broker α) (t : Int) (q : Quotes α) : Broker α × Option Err :=
  Broker.runUntilErr (fun b (m : String × String × α) => b.applyMark m.1 m.2.1 m.2.2 t)
    { b with clock := t } (Broker.markTargets { b with clock := t } q)

theorem marked_eq (b : Broker α) (t : Int) (q : Quotes α) : marked b t q = b.marked t q := rfl

theorem marked_cashView (b : Broker α) (t : Int) (q : Quotes α) (hu : UniqueIds b) :
    UniqueIds (marked b t q).1 ∧ cashView (marked b t q).1 = cashView b :=
  runUntilErr_inv
    (fun b (m : String × String × α) => b.applyMark m.1 m.2.1 m.2.2 t)
    (fun b' => UniqueIds b' ∧ cashView b' = cashView b)
    (fun b' x ⟨h1, h2⟩ =>
      ⟨step_uniqueIds b' (.applyMark x.1 x.2.1 x.2.2 t) h1, (applyMark_cashView b' x.1 x.2.1 x.2.2 t h1).trans h2⟩)
    (Broker.markTargets { b with clock := t } q) { b with clock := t } ⟨hu, rfl⟩

theorem update_closed_cashView (b : Broker α) (t : Int) (q : Quotes α) (hu : UniqueIds b)
    (h : (marked b t q).2 ≠ none ∨ isOpen t = false) : cashView (b.update t q).1 = cashView b := by
  rw [update_eq_marked b t q h.symm]
  exact (marked_cashView b t q hu).2

theorem step_err_cashView (b : Broker α) (op : Op α) (hu : UniqueIds b) (hnu : ∀ t q, op ≠ .update t q)
    {e : Err} (h : (step b op).2 = some e) : cashView (step b op).1 = cashView b := by
  cases hop : pfOp b op with
  | none => rw [step_refused_of_pfOp_none b op hop hnu h]
  | some x =>
    obtain ⟨g, pid, c, m⟩ := x
    rw [step_pfOp hop] at h ⊢
    cases g with
    | true => rfl
    | false => exact call_cashView hu pid c m (by simp only [if_neg Bool.false_ne_true] at h; rw [h]; trivial)

theorem create_cashView (b : Broker α) (pid : String) :
    cashView (b.createPortfolio pid).1 =
      if b.has pid then cashView b else (b.master, (cashView b).2 ++ [(pid, 0)]) := by
  obtain ⟨hm, -, ⟨-, hh, h⟩ | ⟨-, hh, h⟩⟩ := create_entries b pid
  · rw [h, hh]; rfl
  · unfold cashView
    rw [hm, h, hh]
    simp [Portfolio.new]

theorem submitOrder_cashView (b : Broker α) (pid : String) (o : Order) (hu : UniqueIds b) :
    cashView (b.submitOrder pid o).1 = cashView b := by
  obtain ⟨h1, h2, -⟩ := submitOrder_pfs b pid o hu
  exact cashView_of_pfs h1 h2

end
end Qs
