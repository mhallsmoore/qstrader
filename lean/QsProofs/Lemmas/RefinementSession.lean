import QsProofs.Lemmas.RefinementBroker
import QsProofs.Lemmas.Session

/-!
# C08: the session against the reference state

What a session observes of a broker that represents a reference state (holdings, pending orders, equity) is what the
reference state holds; `refDay` is cut into stages that match the session's events; `SR` is the relation between a
session and a reference state, and the constructed session stands in it with `{ cash := initialCash }`.
-/

namespace Qs
variable {α : Type}

/-- the pending orders of the session's portfolio as `(asset, quantity)` pairs, oldest first -/
def pendingOf (b : Broker α) : List (String × Int) :=
  match b.find? PORTFOLIO_ID with
  | none => []
  | some e => e.queue.map fun o => (o.asset, o.qty)

end Qs

namespace Qs.Ref
open NumOps Num

section
variable {α : Type} [Field α] [LinearOrder α] [IsStrictOrderedRing α] [FloorRing α] [NumOps α] [LawfulNumOps α]

theorem heldOf_sim (fee : FeeModel α) (b : Broker α) (st : RefState α) (t : Int) (hbr : BR fee b st t) :
    heldOf b = st.hold := by
  obtain ⟨⟨e, he, her⟩, _, _, _⟩ := hbr
  unfold heldOf
  rw [find?_single he her.id]
  have h1 : e.pf.positions.map (fun p => (p.asset, floorI p.net))
      = (posView e.pf.positions).map (fun x => (x.1, floorI x.2)) := by
    simp [posView, List.map_map, Function.comp_def]
  show e.pf.positions.map (fun p => (p.asset, floorI p.net)) = st.hold
  rw [h1, her.hold]
  simp only [castHold, List.map_map, Function.comp_def, floorI_eq, Int.floor_intCast]
  exact List.map_id' _

omit [LinearOrder α] [IsStrictOrderedRing α] [FloorRing α] [LawfulNumOps α] in
theorem pendingOf_sim (fee : FeeModel α) (b : Broker α) (st : RefState α) (t : Int) (hbr : BR fee b st t) :
    pendingOf b = st.pending := by
  obtain ⟨⟨e, he, her⟩, -⟩ := hbr
  unfold pendingOf
  rw [find?_single he her.id]
  exact her.queue

theorem marketValues_mapM (px : Px α) (t : Int) : ∀ (ps : Positions α) (hold : List (String × Int)),
    posView ps = castHold hold → (∀ p ∈ ps, px t p.asset = some p.price) →
    hold.mapM (fun (x : String × Int) => (px t x.1).map fun p => p * ofInt x.2) = some (ps.map Position.marketValue)
  | [], [], _, _ => rfl
  | [], _ :: _, hv, _ => by simp [posView, castHold] at hv
  | _ :: _, [], hv, _ => by simp [posView, castHold] at hv
  | p :: ps, x :: hold, hv, hm => by
    simp only [posView, castHold, List.map_cons, List.cons.injEq, Prod.mk.injEq] at hv
    obtain ⟨⟨h1, h2⟩, h3⟩ := hv
    have ih := marketValues_mapM px t ps hold h3 (fun q hq => hm q (List.mem_cons_of_mem _ hq))
    have hp := hm p List.mem_cons_self
    rw [h1] at hp
    rw [List.mapM_cons, hp, ih]
    simp only [Option.map_some, Option.bind_eq_bind, Option.bind_some, List.map_cons, Position.marketValue, h2,
      ofInt_eq]
    rfl

/-- the sizing reads the first equation, the equity stage records the left side of the second -/
theorem equity_sim (fee : FeeModel α) (px : Px α) (b : Broker α) (st : RefState α) (t : Int)
    (hbr : BR fee b st t) (hm : Marked px t b) :
    refEquity px t st = some (equityOf b) ∧ (b.accountTotalEquity).2 = equityOf b := by
  obtain ⟨⟨e, he, her⟩, _, _, _⟩ := hbr
  have hmv := marketValues_mapM px t e.pf.positions st.hold her.hold ((marked_single he).1 hm)
  constructor
  · unfold refEquity equityOf
    rw [find?_single he her.id]
    have : (st.hold.mapM fun (x : String × Int) => match x with | (a, q) => (px t a).map fun p => p * ofInt q)
        = some (e.pf.positions.map Position.marketValue) := hmv
    rw [this]
    simp only [Option.map_some, Portfolio.totalEquity, Portfolio.totalMarketValue, Positions.totalMarketValue,
      her.cash]
  · unfold Broker.accountTotalEquity equityOf
    rw [find?_single he her.id]
    simp [he, sumNaive]

/-- stage 2 of `refDay`: a rebalance scheduled at the open instant trades at once -/
def refOpenReb (cfg : SessionCfg α) (w : List (String × α)) (px : Px α) (sched : List Int) (t : Int)
    (st1 : RefState α) : Option (RefState α) :=
  if burnOk cfg t && sched.contains t then do
    let os ← refOrders cfg w px t st1
    let st' ← refFillAll cfg.fee px t st1 os
    pure { st' with allocDates := st'.allocDates ++ [t] }
  else pure st1

/-- stage 3 of `refDay`: a rebalance scheduled at the close queues its orders -/
def refCloseReb (cfg : SessionCfg α) (w : List (String × α)) (px : Px α) (sched : List Int) (t : Int)
    (st2 : RefState α) : Option (RefState α) :=
  if burnOk cfg t && sched.contains t then do
    let os ← refOrders cfg w px t st2
    pure { st2 with pending := st2.pending ++ os, allocDates := st2.allocDates ++ [t] }
  else pure st2

/-- stage 4 of `refDay`: the equity record -/
def refCloseEq (cfg : SessionCfg α) (px : Px α) (t : Int) (st3 : RefState α) : Option (RefState α) :=
  if burnOk cfg t then do
    let eq ← refEquity px t st3
    pure { st3 with equity := st3.equity ++ [(t, eq)] }
  else pure st3

omit [LinearOrder α] [IsStrictOrderedRing α] [FloorRing α] in
theorem refDay_eq (cfg : SessionCfg α) (w : List (String × α)) (px : Px α) (sched : List Int) (st : RefState α)
    (d : Int) :
    refDay cfg w px sched st d =
      (refFillAll cfg.fee px (d * 86400 + OPEN) { st with pending := [] }
          (sellsFirst (fun (o : String × Int) => decide (o.2 < 0)) st.pending)).bind fun st1 =>
        (refOpenReb cfg w px sched (d * 86400 + OPEN) st1).bind fun st2 =>
          (refCloseReb cfg w px sched (d * 86400 + CLOSE) st2).bind fun st3 =>
            refCloseEq cfg px (d * 86400 + CLOSE) st3 := rfl

/-- the session represents the reference state; only a session WITHOUT a signals collection can (`sig`): the reference
is a fixed-weight backtest, and `Session.step` with `signals = none` skips the signals stage -/
structure SR (cfg : SessionCfg α) (s : Session α) (st : RefState α) (t : Int) : Prop where
  br : BR cfg.fee s.broker st t
  eq : s.equity = st.equity
  alloc : s.allocations.map (·.1) = st.allocDates
  sig : s.signals = none

def Assets (A : String → Prop) (st : RefState α) : Prop :=
  (∀ k ∈ st.hold.map (·.1), A k) ∧ (∀ k ∈ st.pending.map (·.1), A k)

theorem observables_of_SR (cfg : SessionCfg α) (s : Session α) (r : RefState α) (t : Int) (h : SR cfg s r t) :
    s.fills = r.fills ∧ s.equity = r.equity ∧ s.allocations.map (·.1) = r.allocDates ∧
    s.broker.portfolioCash PORTFOLIO_ID = .ok r.cash ∧ heldOf s.broker = r.hold ∧ pendingOf s.broker = r.pending := by
  obtain ⟨hbr, heq, hal, _⟩ := h
  refine ⟨show fillsOf s.broker = r.fills from hbr.log, heq, hal, ?_, heldOf_sim cfg.fee s.broker r t hbr,
    pendingOf_sim cfg.fee s.broker r t hbr⟩
  obtain ⟨⟨e, he, her⟩, -⟩ := hbr
  unfold Broker.portfolioCash
  rw [find?_single he her.id]
  show Except.ok e.pf.cash = _
  rw [her.cash]

theorem initBroker_rep {cfg : SessionCfg α} {b : Broker α} (h : Sess.initBroker cfg = .ok b) :
    BR cfg.fee b { cash := cfg.initialCash } cfg.start := by
  cases (Sess.initBroker_eq cfg (Sess.initBroker_nonneg h)).symm.trans h
  exact ⟨⟨_, rfl, rfl, rfl, ⟨le_refl _, fun _ hp => (nomatch hp), List.nodup_nil⟩, rfl, fun _ hx => (nomatch hx), rfl,
    fun _ hx => (nomatch hx)⟩, rfl, rfl, rfl⟩

theorem init_sim (cfg : SessionCfg α) (hnosig : cfg.signalSpecs = none) (s0 : Session α) (events : List SimEvent)
    (sched : List Int) (h : Session.init cfg = .ok (s0, events, sched)) :
    SR cfg s0 { cash := cfg.initialCash } cfg.start ∧
    simEvents cfg.start cfg.end_ false false = .ok events ∧ scheduleOf cfg = .ok sched := by
  obtain ⟨b, _, hb, hev, hsc, _, rfl⟩ := Sess.init_iff.1 h
  exact ⟨⟨initBroker_rep hb, rfl, rfl, by rw [Sess.initSession, hnosig]; rfl⟩, hev, hsc⟩

end
end Qs.Ref
