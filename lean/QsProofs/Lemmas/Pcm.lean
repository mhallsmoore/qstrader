import QsProofs.Lemmas.Sizer
import QsModel.Session

/-!
# Portfolio construction (C09, C19)

What one rebalance does: `fullWeightVector`, `pcmCall`, the dynamic universe (`dynamicAssets`, `Entered`),
`rebalanceOrders` and the effect of filling its orders (`applyOrders`).  The rebalance needs two facts about the
order sizer: it keeps the keys it is given (`SizerKeys`) and sizes a zero weight to nothing (`SizerZero`).  Both are
proved for the two sizers; `SizerKeys` also for the session's choice between them (`Lift.sizerOf`).
-/

namespace Qs

section FW
variable {α : Type} [NumOps α]

theorem mem_fullAssetList {held : List (String × Int)} {uni : List String} {a : String} :
    a ∈ fullAssetList held uni ↔ a ∈ held.map (·.1) ∨ a ∈ uni := by
  unfold fullAssetList
  rw [mem_sortDedup, List.mem_append]

theorem zeroVec_keys (l : List String) : (l.map fun a => (a, (Num.zero : α))).map (·.1) = l := by
  simp [List.map_map, Function.comp_def]

theorem fullWeightVector_keys (held : List (String × Int)) (uni : List String) (opt : List (String × α)) :
    (fullWeightVector held uni opt).map (·.1) =
      fullAssetList held uni ++
        (opt.map (·.1)).filter (fun k => decide (k ∉ fullAssetList held uni)) := by
  unfold fullWeightVector
  rw [dictOverlay_keys, zeroVec_keys]

theorem mem_fullWeightVector_keys {held : List (String × Int)} {uni : List String} {opt : List (String × α)}
    {a : String} :
    a ∈ (fullWeightVector held uni opt).map (·.1) ↔
      a ∈ held.map (·.1) ∨ a ∈ uni ∨ a ∈ opt.map (·.1) := by
  unfold fullWeightVector
  rw [mem_dictOverlay_keys, zeroVec_keys, mem_fullAssetList, or_assoc]

theorem fullWeightVector_keys_nodup {held : List (String × Int)} {uni : List String} {opt : List (String × α)}
    (h : (opt.map (·.1)).Nodup) : ((fullWeightVector held uni opt).map (·.1)).Nodup := by
  unfold fullWeightVector
  apply dictOverlay_keys_nodup _ h
  rw [zeroVec_keys]
  exact sortDedup_nodup _

theorem mem_fullWeightVector {held : List (String × Int)} {uni : List String} {opt : List (String × α)}
    {a : String} {w : α} :
    (a, w) ∈ fullWeightVector held uni opt ↔
      (a ∈ fullAssetList held uni ∧ w = (opt.lookup a).getD Num.zero) ∨
      ((a, w) ∈ opt ∧ a ∉ fullAssetList held uni) := by
  unfold fullWeightVector
  rw [mem_dictOverlay, zeroVec_keys]
  simp only [List.mem_map, Prod.mk.injEq]
  constructor
  · rintro (⟨v, ⟨a', ha', rfl, rfl⟩, rfl⟩ | h)
    · exact Or.inl ⟨ha', rfl⟩
    · exact Or.inr h
  · rintro (⟨ha, rfl⟩ | h)
    · exact Or.inl ⟨_, ⟨a, ha, rfl, rfl⟩, rfl⟩
    · exact Or.inr h

theorem fullWeightVector_weight {held : List (String × Int)} {uni : List String} {opt : List (String × α)}
    (h : (opt.map (·.1)).Nodup) {a : String} {w : α} (hm : (a, w) ∈ fullWeightVector held uni opt) :
    w = (opt.lookup a).getD Num.zero := by
  rcases mem_fullWeightVector.mp hm with ⟨_, rfl⟩ | ⟨hm, _⟩
  · rfl
  · rw [lookup_eq_some_of_mem h hm]; rfl

theorem pcmCall_ok_iff {held : List (String × Int)} {uni : List String} {alpha : List (String × α)}
    {sizer : List (String × α) → Except Err (List (String × Int))} {r : PcmResult α} :
    pcmCall held uni alpha sizer = .ok r ↔
      ∃ target, sizer (fullWeightVector held uni alpha) = .ok target ∧
        r = ⟨fullWeightVector held uni alpha, rebalanceOrders target held⟩ := by
  unfold pcmCall fixedWeight
  refine bind_eq_ok_iff.trans (exists_congr fun t => and_congr_right fun _ => ?_)
  exact ⟨fun h => (Except.ok.inj h).symm, fun h => congrArg Except.ok h.symm⟩

end FW

/-- `a` has an entry date at or before `t` -/
def Entered (dates : List (String × Option Int)) (t : Int) (a : String) : Prop :=
  ∃ e, (a, some e) ∈ dates ∧ e ≤ t

theorem Entered.mono {dates : List (String × Option Int)} {t t' : Int} (h : t ≤ t') {a : String}
    (ha : Entered dates t a) : Entered dates t' a := by
  obtain ⟨e, he, het⟩ := ha
  exact ⟨e, he, le_trans het h⟩

theorem dynamicAssets_eq_filter (dates : List (String × Option Int)) (t : Int) :
    dynamicAssets dates t =
      (dates.filter fun x => match x.2 with
        | some e => decide (e ≤ t)
        | none => false).map (·.1) := by
  rw [map_filter_eq_filterMap]
  refine List.filterMap_congr fun x _ => ?_
  obtain ⟨a, _ | e⟩ := x
  · rfl
  · show (if e ≤ t then some a else none) = if decide (e ≤ t) = true then some a else none
    simp only [decide_eq_true_eq]

theorem mem_dynamicAssets {dates : List (String × Option Int)} {t : Int} {a : String} :
    a ∈ dynamicAssets dates t ↔ Entered dates t a := by
  rw [dynamicAssets_eq_filter, List.mem_map]
  constructor
  · rintro ⟨⟨a', _ | e⟩, hm, rfl⟩ <;> obtain ⟨hm, hp⟩ := List.mem_filter.mp hm
    · cases hp
    · exact ⟨e, hm, of_decide_eq_true hp⟩
  · rintro ⟨e, hm, he⟩
    exact ⟨(a, some e), List.mem_filter.mpr ⟨hm, decide_eq_true he⟩, rfl⟩

theorem dynamicAssets_sublist_mono (dates : List (String × Option Int)) {t t' : Int} (h : t ≤ t') :
    (dynamicAssets dates t).Sublist (dynamicAssets dates t') := by
  rw [dynamicAssets_eq_filter, dynamicAssets_eq_filter]
  refine (List.monotone_filter_right dates fun x hx => ?_).map _
  obtain ⟨a, _ | e⟩ := x
  · exact hx
  · exact decide_eq_true (le_trans (of_decide_eq_true hx) h)

/-- the signed difference for one target entry -/
abbrev diffOf (held : List (String × Int)) (x : String × Int) : String × Int :=
  (x.1, x.2 - (held.lookup x.1).getD 0)

theorem rebalanceOrders_eq (target held : List (String × Int)) :
    rebalanceOrders target held =
      ((sortByKey target).map (diffOf held)).filter (fun x => decide (x.2 ≠ 0)) := by
  unfold rebalanceOrders
  have : (target.map fun (x : String × Int) => match x with
      | (a, q) => (a, q - (held.lookup a).getD 0)) = target.map (diffOf held) := by
    apply List.map_congr_left
    rintro ⟨a, q⟩ _; rfl
  simp only [this]
  rw [sortByKey_map (diffOf held) (fun _ => rfl)]

/-- `_generate_rebalance_orders` reads the target through `sortByKey` and the holdings through `lookup` -/
theorem rebalanceOrders_congr {target target' held held' : List (String × Int)}
    (ht : sortByKey target = sortByKey target') (hl : ∀ a, held.lookup a = held'.lookup a) :
    rebalanceOrders target held = rebalanceOrders target' held' := by
  have : diffOf held = diffOf held' := funext fun x => by simp only [diffOf, hl]
  rw [rebalanceOrders_eq, rebalanceOrders_eq, ht, this]

/-- the orders against a target, once the target is known in key order (for concrete targets) -/
theorem rebalanceOrders_of_sorted {target sorted : List (String × Int)} (hp : sorted.Perm target)
    (hs : (sorted.map (·.1)).Pairwise (· < ·)) (held : List (String × Int)) :
    rebalanceOrders target held = (sorted.map (diffOf held)).filter (fun x => decide (x.2 ≠ 0)) := by
  rw [rebalanceOrders_eq, sortByKey_eq_of_perm_sorted hp hs]

theorem rebalanceOrders_eq_filterMap (target held : List (String × Int)) :
    rebalanceOrders target held =
      (sortByKey target).filterMap (fun x =>
        if x.2 - (held.lookup x.1).getD 0 ≠ 0 then some (x.1, x.2 - (held.lookup x.1).getD 0) else none) := by
  rw [rebalanceOrders_eq, List.filter_map, map_filter_eq_filterMap]
  apply List.filterMap_congr
  intro x _
  by_cases h : x.2 - (held.lookup x.1).getD 0 = 0 <;> simp [diffOf, h]

theorem mem_rebalanceOrders {target held : List (String × Int)} {a : String} {d : Int} :
    (a, d) ∈ rebalanceOrders target held ↔
      ∃ q, (a, q) ∈ target ∧ d = q - (held.lookup a).getD 0 ∧ d ≠ 0 := by
  rw [rebalanceOrders_eq, List.mem_filter, List.mem_map]
  constructor
  · rintro ⟨⟨⟨a', q⟩, hm, he⟩, hd⟩
    simp only [diffOf, Prod.mk.injEq] at he
    obtain ⟨rfl, rfl⟩ := he
    exact ⟨q, mem_sortByKey.mp hm, rfl, of_decide_eq_true hd⟩
  · rintro ⟨q, hm, rfl, hd⟩
    exact ⟨⟨(a, q), mem_sortByKey.mpr hm, rfl⟩, decide_eq_true hd⟩

theorem mem_rebalanceOrders_of_mem {target held : List (String × Int)} (hnd : (target.map (·.1)).Nodup)
    {a : String} {q : Int} (hq : (a, q) ∈ target) (d : Int) :
    (a, d) ∈ rebalanceOrders target held ↔ d = q - (held.lookup a).getD 0 ∧ d ≠ 0 := by
  rw [mem_rebalanceOrders]
  exact ⟨fun ⟨q', hq', h⟩ => eq_of_nodup_keys hnd hq' hq ▸ h, fun h => ⟨q, hq, h⟩⟩

theorem rebalanceOrders_keys_sublist (target held : List (String × Int)) :
    ((rebalanceOrders target held).map (·.1)).Sublist ((sortByKey target).map (·.1)) := by
  rw [rebalanceOrders_eq]
  have h1 : (((sortByKey target).map (diffOf held)).filter (fun x => decide (x.2 ≠ 0))).Sublist
      ((sortByKey target).map (diffOf held)) := List.filter_sublist
  have h2 := h1.map (·.1)
  simpa [List.map_map, Function.comp_def] using h2

theorem rebalanceOrders_keys_pairwise_lt {target : List (String × Int)} (h : (target.map (·.1)).Nodup)
    (held : List (String × Int)) : ((rebalanceOrders target held).map (·.1)).Pairwise (· < ·) :=
  (sortByKey_keys_pairwise_lt h).sublist (rebalanceOrders_keys_sublist target held)

theorem rebalanceOrders_ne_zero {target held : List (String × Int)} {o : String × Int}
    (h : o ∈ rebalanceOrders target held) : o.2 ≠ 0 := by
  obtain ⟨a, d⟩ := o
  obtain ⟨_, _, _, hd⟩ := mem_rebalanceOrders.mp h
  exact hd

/-! ## executing orders on holdings (arithmetic) -/

/-- total ordered quantity for asset `a` -/
def orderedQty (orders : List (String × Int)) (a : String) : Int :=
  ((orders.filter (fun o => o.1 == a)).map (·.2)).sum

/-- holdings after every order has filled in full: `held a + Σ orders for a` -/
def applyOrders (held orders : List (String × Int)) (a : String) : Int :=
  (held.lookup a).getD 0 + orderedQty orders a

theorem orderedQty_cons (o : String × Int) (os : List (String × Int)) (b : String) :
    orderedQty (o :: os) b = (if b = o.1 then o.2 else 0) + orderedQty os b := by
  unfold orderedQty
  by_cases h : o.1 = b
  · simp [h.symm]
  · have : (o.1 == b) = false := by simpa using h
    have h' : ¬ b = o.1 := fun e => h e.symm
    simp [this, h']

theorem orderedQty_perm {l₁ l₂ : List (String × Int)} (h : l₁.Perm l₂) (a : String) :
    orderedQty l₁ a = orderedQty l₂ a :=
  ((h.filter _).map _).sum_eq

theorem orderedQty_filter_ne_zero (l : List (String × Int)) (a : String) :
    orderedQty (l.filter (fun x => decide (x.2 ≠ 0))) a = orderedQty l a := by
  induction l with
  | nil => rfl
  | cons x xs ih =>
    rw [List.filter_cons, orderedQty_cons]
    by_cases h0 : x.2 = 0
    · rw [if_neg (by rw [decide_eq_true_eq]; exact not_not.mpr h0), ih, h0, ite_self, zero_add]
    · rw [if_pos (decide_eq_true h0), orderedQty_cons, ih]

theorem orderedQty_of_not_mem {l : List (String × Int)} {a : String} (h : a ∉ l.map (·.1)) :
    orderedQty l a = 0 := by
  induction l with
  | nil => rfl
  | cons x xs ih =>
    rw [List.map_cons, List.mem_cons, not_or] at h
    rw [orderedQty_cons, if_neg h.1, ih h.2, zero_add]

theorem orderedQty_eq_lookup {l : List (String × Int)} (hnd : (l.map (·.1)).Nodup) (a : String) :
    orderedQty l a = (l.lookup a).getD 0 := by
  induction l with
  | nil => rfl
  | cons x xs ih =>
    obtain ⟨k, v⟩ := x
    rw [List.map_cons, List.nodup_cons] at hnd
    rw [orderedQty_cons, List.lookup_cons]
    by_cases hk : a = k
    · subst hk
      rw [if_pos rfl, beq_self_eq_true, orderedQty_of_not_mem hnd.1, add_zero]; rfl
    · rw [if_neg hk, zero_add, beq_false_of_ne hk]
      exact ih hnd.2

theorem orderedQty_rebalanceOrders (target held : List (String × Int)) (a : String) :
    orderedQty (rebalanceOrders target held) a = orderedQty (target.map (diffOf held)) a := by
  rw [rebalanceOrders_eq, orderedQty_filter_ne_zero]
  exact orderedQty_perm ((sortByKey_perm target).map _) a

theorem lookup_map_diffOf (held target : List (String × Int)) (a : String) :
    (target.map (diffOf held)).lookup a = (target.lookup a).map (· - (held.lookup a).getD 0) := by
  induction target with
  | nil => rfl
  | cons x xs ih =>
    obtain ⟨k, q⟩ := x
    show List.lookup a ((k, q - (held.lookup k).getD 0) :: xs.map (diffOf held)) = _
    rw [List.lookup_cons, List.lookup_cons]
    by_cases h : a = k
    · subst h; rw [beq_self_eq_true]; rfl
    · rw [beq_false_of_ne h]; exact ih

/-- filling the rebalance orders of a dictionary `target` puts every asset it mentions at its target quantity and
leaves every other holding alone -/
theorem applyOrders_rebalanceOrders {target : List (String × Int)} (ht : (target.map (·.1)).Nodup)
    (held : List (String × Int)) (a : String) :
    applyOrders held (rebalanceOrders target held) a = (target.lookup a).getD ((held.lookup a).getD 0) := by
  have hk : (target.map (diffOf held)).map (·.1) = target.map (·.1) := by rw [List.map_map]; rfl
  unfold applyOrders
  rw [orderedQty_rebalanceOrders, orderedQty_eq_lookup (hk ▸ ht), lookup_map_diffOf]
  cases target.lookup a with
  | none => exact Int.add_zero _
  | some q => show _ + (q - _) = q; omega

section SizerSpec
variable {α : Type} [NumOps α]

/-- the sizer returns one quantity per weight, for exactly the keys it is given, in ascending key order -/
def SizerKeys (sizer : List (String × α) → Except Err (List (String × Int))) : Prop :=
  ∀ w target, sizer w = .ok target → target.map (·.1) = (sortByKey w).map (·.1)

/-- a zero weight is sized to a zero quantity -/
def SizerZero (sizer : List (String × α) → Except Err (List (String × Int))) : Prop :=
  ∀ w target a, sizer w = .ok target → (a, (Num.zero : α)) ∈ w → (a, (0 : Int)) ∈ target

omit [NumOps α] in
theorem SizerKeys.nodup {sizer : List (String × α) → Except Err (List (String × Int))} (hk : SizerKeys sizer)
    {w : List (String × α)} {target : List (String × Int)} (hs : sizer w = .ok target)
    (hw : (w.map (·.1)).Nodup) : (target.map (·.1)).Nodup := by
  rw [hk _ _ hs]; exact (sortByKey_keys_perm w).nodup_iff.mpr hw

theorem pcmCall_keys {held : List (String × Int)} {uni : List String} {alpha : List (String × α)}
    {sizer : List (String × α) → Except Err (List (String × Int))} (hk : SizerKeys sizer) {r : PcmResult α}
    (hr : pcmCall held uni alpha sizer = .ok r) :
    ∃ target, sizer (fullWeightVector held uni alpha) = .ok target ∧
      r = ⟨fullWeightVector held uni alpha, rebalanceOrders target held⟩ ∧
      (∀ a, a ∈ target.map (·.1) ↔ a ∈ held.map (·.1) ∨ a ∈ uni ∨ a ∈ alpha.map (·.1)) ∧
      (∀ o ∈ r.orders, o.1 ∈ target.map (·.1)) := by
  obtain ⟨target, hs, rfl⟩ := pcmCall_ok_iff.mp hr
  refine ⟨target, hs, rfl, fun a => ?_, ?_⟩
  · rw [hk _ _ hs, (sortByKey_keys_perm _).mem_iff, mem_fullWeightVector_keys]
  · rintro ⟨a, d⟩ ho
    obtain ⟨q, hq, -, -⟩ := mem_rebalanceOrders.mp ho
    exact List.mem_map.mpr ⟨(a, q), hq, rfl⟩

end SizerSpec

section Sizers
variable {α : Type} [Field α] [LinearOrder α] [IsStrictOrderedRing α] [FloorRing α] [NumOps α] [LawfulNumOps α]

theorem dwSize_keys (fee : FeeModel α) (E b : α) (price : String → Option α) :
    SizerKeys (dwSize fee E b price) := fun w target h => by
  rw [(dwSize_ok_iff.mp h).2, sized_keys]

theorem lsSize_keys (fee : FeeModel α) (E lev : α) (price : String → Option α) :
    SizerKeys (lsSize fee E lev price) := fun w target h => by
  rw [(lsSize_ok_iff.mp h).2, sized_keys]

/-- the order sizer of the session (a name for the sub-expression of `rebalanceAt`) -/
def Lift.sizerOf (cfg : SessionCfg α) (E : α) (price : String → Option α) (w : List (String × α)) :
    Except Err (List (String × Int)) :=
  if cfg.longOnly then dwSize cfg.fee E cfg.param price w else lsSize cfg.fee E cfg.param price w

theorem Lift.sizerOf_keys (cfg : SessionCfg α) (E : α) (price : String → Option α) : SizerKeys (Lift.sizerOf cfg E price) := by
  intro w target h
  unfold Lift.sizerOf at h
  split at h
  · exact dwSize_keys _ _ _ _ _ _ h
  · exact lsSize_keys _ _ _ _ _ _ h

theorem Lift.sizerOf_orders_keys (cfg : SessionCfg α) (eq : α) (px : Px α) (t : Int) (hold : List (String × Int))
    (w : List (String × α)) (tq : List (String × Int))
    (h : Lift.sizerOf cfg eq (px t) (fullWeightVector hold (cfg.uni.assets t) w) = .ok tq) :
    ∀ k ∈ (rebalanceOrders tq hold).map (·.1),
      k ∈ hold.map (·.1) ∨ k ∈ cfg.uni.assets t ∨ k ∈ w.map (·.1) := by
  intro k hk
  have h1 := (rebalanceOrders_keys_sublist tq hold).subset hk
  have h2 : k ∈ tq.map (·.1) := (sortByKey_keys_perm tq).mem_iff.mp h1
  rw [Lift.sizerOf_keys cfg eq (px t) _ _ h] at h2
  have h4 := (sortByKey_keys_perm _).mem_iff.mp h2
  exact mem_fullWeightVector_keys.mp h4

/-- normalisation (or its `isclose` bypass) keeps a zero weight zero, and a zero weight buys nothing -/
theorem dwSize_zero (fee : FeeModel α) (E b : α) (price : String → Option α) :
    SizerZero (dwSize fee E b price) := fun w target a h hm => by
  rw [(dwSize_ok_iff.mp h).2]
  exact zero_mem_sized (normScale_zero _ (zero_div _)) (dwQuantity_zero fee _) (zero_eq (α := α) ▸ hm)

theorem lsSize_zero (fee : FeeModel α) (E lev : α) (price : String → Option α) :
    SizerZero (lsSize fee E lev price) := fun w target a h hm => by
  rw [(lsSize_ok_iff.mp h).2]
  exact zero_mem_sized (normScale_zero _ (f := fun x => x * _) (zero_mul _)) (lsQuantity_zero fee _)
    (zero_eq (α := α) ▸ hm)

end Sizers

end Qs
