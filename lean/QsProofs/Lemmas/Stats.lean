import QsProofs.Lemmas.Signals
import QsModel.Stats
import Mathlib.Data.List.Induction
import Mathlib.Order.Lattice

/-!
# The performance statistics (C17)

The running quantities of `performance.py` are library folds: `cumProd` and `hwmFrom` are `List.scanl`
(`cons_cumProd`, `cons_hwmFrom`) and `pctChanges` is a `zipWith` (`Sig.pctChanges_eq_zipWith`), so lengths and
entries are read off the `scanl`/`zipWith` lemmas; for a positive curve the running product of the returns
telescopes to value / first value (`cumReturnsOf_returnsOf`).  `groupByKey` has a closed form (`groupByKey_eq`:
one group per key of `gkeys`, holding the filter of the input), and the partition facts are readings of it.
`longestRun_invariant` says what the two counters of `longestRun` are.  Returns and drawdowns do not see the scale of
the curve (`Sig.pctChanges_scale`, `drawdownsOf_div`).
-/

-- statements in a section keep all its carrier classes, used or not
set_option linter.unusedSectionVars false

namespace Qs
namespace St
open Num

section Group
variable {β : Type}

/-- the per-group step of `groupByKey`: put `x` in front of the group with key `k` -/
def addTo (k : List Int) (x : β) (g : List Int × List β) : List Int × List β :=
  if g.1 == k then (g.1, x :: g.2) else g

theorem groupByKey_cons (key : β → List Int) (x : β) (xs : List β) :
    groupByKey key (x :: xs) =
      if (groupByKey key xs).any (fun g => g.1 == key x) then (groupByKey key xs).map (addTo (key x) x)
      else (key x, [x]) :: groupByKey key xs := rfl

/-- the keys in the order in which `groupByKey` lists them -/
def gkeys (key : β → List Int) : List β → List (List Int)
  | [] => []
  | x :: xs => List.insert (key x) (gkeys key xs)

theorem mem_gkeys (key : β → List Int) (l : List β) (k : List Int) : k ∈ gkeys key l ↔ k ∈ l.map key := by
  induction l with
  | nil => simp [gkeys]
  | cons x xs ih => rw [gkeys, List.mem_insert_iff, ih, List.map_cons, List.mem_cons]

theorem gkeys_nodup (key : β → List Int) (l : List β) : (gkeys key l).Nodup := by
  induction l with
  | nil => exact List.nodup_nil
  | cons x xs ih => exact ih.insert

/-- `groupByKey` in closed form: one group per key, holding the elements with that key in input order -/
theorem groupByKey_eq (key : β → List Int) (l : List β) :
    groupByKey key l = (gkeys key l).map fun k => (k, l.filter fun x => key x == k) := by
  induction l with
  | nil => rfl
  | cons x xs ih =>
    have hany : (groupByKey key xs).any (fun g => g.1 == key x) = true ↔ key x ∈ gkeys key xs := by
      rw [any_key_iff, ih, List.map_map]
      exact Iff.of_eq (congrArg _ (List.map_id' _))
    rw [groupByKey_cons]
    split
    · rename_i h
      rw [gkeys, List.insert_of_mem (hany.mp h), ih, List.map_map]
      refine List.map_congr_left fun k _ => ?_
      by_cases hk : k = key x
      · simp [addTo, hk]
      · simp [addTo, hk, Ne.symm hk]
    · rename_i h
      have hx : key x ∉ gkeys key xs := fun hm => h (hany.mpr hm)
      rw [gkeys, List.insert_of_not_mem hx, List.map_cons, ih]
      congr 1
      · -- a new group: no later element has this key
        rw [List.filter_cons, if_pos (beq_self_eq_true _), List.filter_eq_nil_iff.mpr]
        exact fun y hy hc => hx ((mem_gkeys key xs _).mpr (List.mem_map.mpr ⟨y, hy, by simpa using hc⟩))
      · refine List.map_congr_left fun k hk => ?_
        have : ¬ key x = k := fun e => hx (e ▸ hk)
        simp [this]

theorem keys_groupByKey (key : β → List Int) (l : List β) : (groupByKey key l).map (·.1) = gkeys key l := by
  rw [groupByKey_eq, List.map_map]
  exact List.map_id' _

theorem mem_keys_groupByKey (key : β → List Int) (l : List β) (k : List Int) :
    k ∈ (groupByKey key l).map (·.1) ↔ k ∈ l.map key := by
  rw [keys_groupByKey]; exact mem_gkeys key l k

theorem groupByKey_keys_nodup (key : β → List Int) (l : List β) : ((groupByKey key l).map (·.1)).Nodup := by
  rw [keys_groupByKey]; exact gkeys_nodup key l

theorem groupByKey_group_eq (key : β → List Int) (l : List β) :
    ∀ g ∈ groupByKey key l, g.2 = l.filter (fun x => key x == g.1) := by
  intro g hg
  rw [groupByKey_eq] at hg
  obtain ⟨k, -, rfl⟩ := List.mem_map.mp hg
  rfl

theorem groupByKey_group_ne_nil (key : β → List Int) (l : List β) : ∀ g ∈ groupByKey key l, g.2 ≠ [] := by
  intro g hg
  obtain ⟨x, hx, hk⟩ := List.mem_map.mp ((mem_keys_groupByKey key l g.1).mp (List.mem_map.mpr ⟨g, hg, rfl⟩))
  rw [groupByKey_group_eq key l g hg]
  exact List.ne_nil_of_mem (List.mem_filter.mpr ⟨hx, by simp [hk]⟩)

theorem groupByKey_perm (key : β → List Int) (l : List β) :
    ((groupByKey key l).flatMap (·.2)).Perm l := by
  rw [groupByKey_eq, List.flatMap_map]
  refine (flatMap_filter_perm key l _ (gkeys_nodup key l)).trans (List.Perm.of_eq ?_)
  exact List.filter_eq_self.mpr fun x hx => by simpa using (mem_gkeys key l _).mpr (List.mem_map_of_mem hx)

end Group

section Numeric
variable {α : Type} [Field α] [LinearOrder α] [IsStrictOrderedRing α] [FloorRing α] [NumOps α] [LawfulNumOps α]

theorem returnsOf_nil : returnsOf ([] : List α) = [] := rfl

theorem returnsOf_cons (e : α) (es : List α) : returnsOf (e :: es) = 0 :: pctChanges (e :: es) := by
  simp [returnsOf]

theorem returnsOf_length (eq : List α) : (returnsOf eq).length = eq.length := by
  cases eq with
  | nil => rfl
  | cons e es => rw [returnsOf_cons, List.length_cons, Sig.pctChanges_length]; simp

theorem returnsOf_zero (eq : List α) (h : eq ≠ []) : (returnsOf eq)[0]? = some 0 := by
  cases eq with
  | nil => exact absurd rfl h
  | cons e es => rw [returnsOf_cons]; rfl

theorem returnsOf_succ (eq : List α) (t : Nat) (x y : α) (hx : eq[t]? = some x) (hy : eq[t + 1]? = some y) :
    (returnsOf eq)[t + 1]? = some (y / x - 1) := by
  cases eq with
  | nil => simp at hx
  | cons e es =>
    rw [returnsOf_cons, List.getElem?_cons_succ]
    exact Sig.pctChanges_getElem? _ t x y hx hy

theorem cumProd_nil (acc : α) : cumProd acc ([] : List α) = [] := rfl

theorem cumProd_cons (acc r : α) (rs : List α) :
    cumProd acc (r :: rs) = (acc * (1 + r)) :: cumProd (acc * (1 + r)) rs := by
  simp [cumProd]

/-- the running product is a `scanl`; core's `length_scanl`, `getElem?_scanl`, `getLast?_scanl` do the index work -/
theorem cons_cumProd (acc : α) (rs : List α) :
    acc :: cumProd acc rs = rs.scanl (fun acc r => acc * (one + r)) acc := by
  induction rs generalizing acc with
  | nil => rfl
  | cons r rs ih => rw [List.scanl_cons, ← ih]; rfl

theorem cumProd_length (acc : α) (rs : List α) : (cumProd acc rs).length = rs.length := by
  simpa using congrArg List.length (cons_cumProd acc rs)

theorem cumProd_getElem? (acc : α) (rs : List α) (t : Nat) (ht : t < rs.length) :
    (cumProd acc rs)[t]? = some (acc * ((rs.take (t + 1)).map (1 + ·)).prod) := by
  rw [← List.getElem?_cons_succ (a := acc), cons_cumProd, List.getElem?_scanl, if_pos (Nat.succ_le_of_lt ht),
    Sig.foldl_gross]

theorem cumProd_getLastD (acc z : α) (rs : List α) (h : rs ≠ []) :
    (cumProd acc rs).getLastD z = acc * (rs.map (1 + ·)).prod := by
  have hne : cumProd acc rs ≠ [] := fun e => h (List.length_eq_zero_iff.mp (by rw [← cumProd_length acc, e]; rfl))
  have h1 := List.getLast?_scanl (f := fun acc r => acc * (one + r)) (b := acc) (l := rs)
  rw [← cons_cumProd, List.getLast?_cons_of_ne_nil hne] at h1
  rw [List.getLastD_eq_getLast?, h1, Option.getD_some, Sig.foldl_gross]

theorem cumProd_pct (acc e : α) (es : List α) (hpos : ∀ x ∈ e :: es, 0 < x) :
    cumProd acc (pctChanges (e :: es)) = es.map (fun x => acc / e * x) := by
  have h := cons_cumProd acc (pctChanges (e :: es))
  rw [Sig.scanl_gross_pct acc e es hpos, List.map_cons] at h
  exact (List.cons.inj h).2

theorem cumReturnsOf_returnsOf (e : α) (es : List α) (hpos : ∀ x ∈ e :: es, 0 < x) :
    cumReturnsOf (returnsOf (e :: es)) = (e :: es).map (· / e) := by
  unfold cumReturnsOf
  rw [returnsOf_cons, cumProd_cons, cumProd_pct _ e es hpos]
  simp [(hpos e (by simp)).ne', inv_mul_eq_div]

/-- `compound` is `cumReturn` (the same fold, written twice in the model) -/
theorem compound_eq (rs : List α) : compound rs = (rs.map (1 + ·)).prod - 1 := Sig.cumReturn_eq rs

theorem one_add_compound (rs : List α) : 1 + compound rs = (rs.map (1 + ·)).prod := by
  rw [compound_eq]; ring

theorem prod_groups {γ : Type} (f : γ → α) (G : List (List Int × List γ)) :
    (G.map fun g => (g.2.map f).prod).prod = ((G.flatMap (·.2)).map f).prod := by
  induction G with
  | nil => rfl
  | cons g G ih => rw [List.map_cons, List.prod_cons, ih, List.flatMap_cons, List.map_append, List.prod_append]

theorem prod_groupByKey {γ : Type} (key : γ → List Int) (val : γ → α) (l : List γ) :
    ((groupByKey key l).map fun g => 1 + compound (g.2.map val)).prod = (l.map fun x => 1 + val x).prod := by
  have h1 : ((groupByKey key l).map fun g => 1 + compound (g.2.map val)) =
      (groupByKey key l).map fun g => (g.2.map fun x => 1 + val x).prod := by
    apply List.map_congr_left
    intro g _
    rw [one_add_compound, List.map_map]
    rfl
  rw [h1, prod_groups]
  exact ((groupByKey_perm key l).map _).prod_eq

theorem aggregateReturns_perm (p : Period) (dated : List (Int × α)) :
    (aggregateReturns p dated).Perm
      ((groupByKey (fun (x : Int × α) => periodKey p x.1) dated).map
        fun g => (g.1, compound (g.2.map (·.2)))) := by
  unfold aggregateReturns
  exact List.mergeSort_perm _ _

theorem prod_aggregateReturns (p : Period) (dated : List (Int × α)) :
    ((aggregateReturns p dated).map fun g => 1 + g.2).prod = (dated.map fun x => 1 + x.2).prod := by
  rw [((aggregateReturns_perm p dated).map _).prod_eq, List.map_map]
  exact prod_groupByKey (fun (x : Int × α) => periodKey p x.1) (·.2) dated

theorem foldl_pmax (h : α) (l : List α) : l.foldl pmax h = l.foldl max h := by
  induction l generalizing h with
  | nil => rfl
  | cons y ys ih => rw [List.foldl_cons, List.foldl_cons, pmax_eq, ih]

theorem hwmFrom_nil (h : α) : hwmFrom h ([] : List α) = [] := rfl

theorem hwmFrom_cons (h y : α) (ys : List α) : hwmFrom h (y :: ys) = max h y :: hwmFrom (max h y) ys := by
  simp [hwmFrom, pmax_eq]

theorem cons_hwmFrom (h : α) (ys : List α) : h :: hwmFrom h ys = ys.scanl max h := by
  induction ys generalizing h with
  | nil => rfl
  | cons y ys ih => rw [List.scanl_cons, ← ih, hwmFrom_cons]

theorem hwmFrom_length (h : α) (ys : List α) : (hwmFrom h ys).length = ys.length := by
  simpa using congrArg List.length (cons_hwmFrom h ys)

theorem highWaterMarks_cons (x : α) (xs : List α) : highWaterMarks (x :: xs) = x :: hwmFrom x xs := rfl

theorem highWaterMarks_length (cum : List α) : (highWaterMarks cum).length = cum.length := by
  cases cum with
  | nil => rfl
  | cons x xs => rw [highWaterMarks_cons, List.length_cons, hwmFrom_length, List.length_cons]

theorem highWaterMarks_getElem? (x : α) (xs : List α) (t : Nat) (ht : t ≤ xs.length) :
    (highWaterMarks (x :: xs))[t]? = some ((xs.take t).foldl max x) := by
  rw [highWaterMarks_cons, cons_hwmFrom, List.getElem?_scanl, if_pos ht]

theorem highWaterMarks_spec (cum : List α) (t : Nat) (ht : t < cum.length) :
    ∃ M, (highWaterMarks cum)[t]? = some M ∧ (∀ u ∈ cum.take (t + 1), u ≤ M) ∧ M ∈ cum.take (t + 1) := by
  cases cum with
  | nil => simp at ht
  | cons x xs =>
    rw [List.take_succ_cons]
    exact ⟨_, highWaterMarks_getElem? x xs t (by simpa [Nat.lt_succ_iff] using ht), foldl_max_spec x (xs.take t)⟩

theorem drawdownsOf_nil : drawdownsOf ([] : List α) = [] := rfl

theorem drawdownsOf_cons (x : α) (xs : List α) :
    drawdownsOf (x :: xs) = 0 :: List.zipWith (fun h y => (h - y) / h) (hwmFrom x xs) xs := by
  simp [drawdownsOf, highWaterMarks_cons]

theorem drawdownsOf_length (cum : List α) : (drawdownsOf cum).length = cum.length := by
  cases cum with
  | nil => rfl
  | cons x xs => rw [drawdownsOf_cons]; simp [hwmFrom_length]

theorem drawdownsOf_ne_nil {cum : List α} (h : cum ≠ []) : drawdownsOf cum ≠ [] := fun e =>
  h (List.length_eq_zero_iff.mp (by rw [← drawdownsOf_length, e]; rfl))

/-- every entry is `(M − v) / M`; at `t = 0` mark and value coincide, so the forced `0` is of that form too -/
theorem drawdownsOf_getElem? (cum : List α) (t : Nat) (M v : α) (hM : (highWaterMarks cum)[t]? = some M)
    (hv : cum[t]? = some v) : (drawdownsOf cum)[t]? = some ((M - v) / M) := by
  cases cum with
  | nil => simp at hv
  | cons x xs =>
    rw [highWaterMarks_cons] at hM
    rw [drawdownsOf_cons]
    cases t with
    | zero =>
      rw [List.getElem?_cons_zero, Option.some.injEq] at hM hv
      rw [← hM, ← hv, sub_self, zero_div, List.getElem?_cons_zero]
    | succ t =>
      rw [List.getElem?_cons_succ] at hM hv
      rw [List.getElem?_cons_succ, List.getElem?_zipWith, hM, hv]

theorem drawdownsOf_zero (cum : List α) (h : cum ≠ []) : (drawdownsOf cum)[0]? = some 0 := by
  cases cum with
  | nil => exact absurd rfl h
  | cons x xs => rw [drawdownsOf_cons]; rfl

theorem maxOf_cons (x : α) (xs : List α) : maxOf (x :: xs) = xs.foldl max x := by
  simp [maxOf, foldl_pmax]

theorem maxOf_spec (l : List α) (h : l ≠ []) : (∀ y ∈ l, y ≤ maxOf l) ∧ maxOf l ∈ l := by
  cases l with
  | nil => exact absurd rfl h
  | cons x xs => rw [maxOf_cons]; exact foldl_max_spec x xs

def longestRunStep (st : Nat × Nat) (x : α) : Nat × Nat :=
  (if x = 0 then 0 else st.1 + 1, max st.2 (if x = 0 then 0 else st.1 + 1))

theorem longestRun_eq (dd : List α) : longestRun dd = (dd.foldl longestRunStep (0, 0)).2 := by
  simp only [longestRun, beq_eq, zero_eq, decide_eq_true_eq]
  rfl

def NonZeros (l : List α) : Prop := ∀ x ∈ l, x ≠ 0

/-- the non-zero suffixes of `l ++ [x]`: the empty one and, for `x ≠ 0`, the non-zero suffixes of `l` extended by `x` -/
theorem nonZeros_suffix_concat {l s : List α} {x : α} (hs : s <:+ l ++ [x]) (hnz : NonZeros s) :
    s = [] ∨ (x ≠ 0 ∧ ∃ t, s = t ++ [x] ∧ t <:+ l ∧ NonZeros t) := by
  rcases List.suffix_concat_iff.mp hs with h | ⟨t, rfl, ht⟩
  · exact Or.inl h
  · exact Or.inr ⟨hnz x (List.mem_append_right _ (List.mem_singleton_self x)), t, rfl, ht,
      fun y hy => hnz y (List.mem_append_left _ hy)⟩

/-- `n` is the greatest length of a list with `P` -/
def MaxLen (P : List α → Prop) (n : Nat) : Prop :=
  (∃ s, P s ∧ s.length = n) ∧ ∀ s, P s → s.length ≤ n

theorem MaxLen.or {P Q : List α → Prop} {m n : Nat} (hP : MaxLen P m) (hQ : MaxLen Q n) :
    MaxLen (fun s => P s ∨ Q s) (max m n) := by
  refine ⟨?_, fun s hs => hs.elim (fun h => (hP.2 s h).trans (le_max_left _ _))
    fun h => (hQ.2 s h).trans (le_max_right _ _)⟩
  rcases le_total m n with h | h
  · obtain ⟨s, hs, rfl⟩ := hQ.1
    exact ⟨s, Or.inr hs, (max_eq_right h).symm⟩
  · obtain ⟨s, hs, rfl⟩ := hP.1
    exact ⟨s, Or.inl hs, (max_eq_left h).symm⟩

/-- appending `x` closes the open run (`x = 0`) or extends it by one -/
theorem maxLen_suffix_concat {l : List α} {x : α} {c : Nat} (h : MaxLen (fun s => s <:+ l ∧ NonZeros s) c) :
    MaxLen (fun s => s <:+ l ++ [x] ∧ NonZeros s) (if x = 0 then 0 else c + 1) := by
  obtain ⟨⟨suf, ⟨hs1, hs2⟩, rfl⟩, hS⟩ := h
  refine ⟨?_, fun s ⟨hs, hnz⟩ => ?_⟩
  · by_cases hx : x = 0
    · exact ⟨[], ⟨List.nil_suffix, fun _ h => nomatch h⟩, by rw [if_pos hx]; rfl⟩
    · refine ⟨suf ++ [x], ⟨List.suffix_concat_iff.mpr (Or.inr ⟨suf, rfl, hs1⟩), fun y hy => ?_⟩,
        by rw [if_neg hx, List.length_append]; rfl⟩
      rcases List.mem_append.mp hy with h | h
      · exact hs2 y h
      · rw [List.mem_singleton.mp h]; exact hx
  · rcases nonZeros_suffix_concat hs hnz with rfl | ⟨hx, t, rfl, ht, hnt⟩
    · exact Nat.zero_le _
    · rw [if_neg hx, List.length_append]
      exact Nat.succ_le_succ (hS t ⟨ht, hnt⟩)

/-- The state of the fold of `longestRun` after `l`: `.1` is the length of the longest non-zero suffix of `l`
(the run still open), `.2` that of the longest non-zero infix (the best run so far). -/
theorem longestRun_invariant (l : List α) :
    MaxLen (fun s => s <:+ l ∧ NonZeros s) (l.foldl longestRunStep (0, 0)).1 ∧
    MaxLen (fun r => r <:+: l ∧ NonZeros r) (l.foldl longestRunStep (0, 0)).2 := by
  induction l using List.reverseRecOn with
  | nil =>
    have hn : NonZeros ([] : List α) := fun _ h => nomatch h
    exact ⟨⟨⟨[], ⟨List.suffix_refl _, hn⟩, rfl⟩, fun s hs => by rw [List.suffix_nil.mp hs.1]; exact Nat.le_refl _⟩,
      ⟨[], ⟨List.infix_refl _, hn⟩, rfl⟩, fun r hr => by rw [List.infix_nil.mp hr.1]; exact Nat.le_refl _⟩
  | append_singleton l x ih =>
    rw [List.foldl_append, List.foldl_cons, List.foldl_nil]
    have hs := maxLen_suffix_concat (x := x) ih.1
    refine ⟨hs, ?_⟩
    -- a non-zero infix of `l ++ [x]` is an infix of `l` or a suffix of `l ++ [x]`
    have hor := ih.2.or hs
    have hiff : ∀ r : List α, (r <:+: l ∧ NonZeros r ∨ r <:+ l ++ [x] ∧ NonZeros r) ↔ r <:+: l ++ [x] ∧ NonZeros r :=
      fun r => by rw [← or_and_right, List.infix_concat_iff, or_comm]
    exact ⟨hor.1.imp fun r hr => ⟨(hiff r).mp hr.1, hr.2⟩, fun r hr => hor.2 r ((hiff r).mpr hr)⟩

theorem hwmFrom_div (e : α) (he : 0 < e) (h : α) (ys : List α) :
    hwmFrom (h / e) (ys.map (· / e)) = (hwmFrom h ys).map (· / e) := by
  induction ys generalizing h with
  | nil => rfl
  | cons y ys ih => rw [List.map_cons, hwmFrom_cons, hwmFrom_cons, List.map_cons, max_div_div_right he.le, ih]

theorem drawdownsOf_div (e : α) (he : 0 < e) (l : List α) : drawdownsOf (l.map (· / e)) = drawdownsOf l := by
  cases l with
  | nil => rfl
  | cons x xs =>
    rw [List.map_cons, drawdownsOf_cons, drawdownsOf_cons, hwmFrom_div e he, List.zipWith_map]
    congr 2
    funext h y
    rw [div_sub_div_same, div_div_div_cancel_right₀ he.ne']

end Numeric

end St
end Qs
